import Mp.AddressedPaths
import Mp.AggFunc
import Mp.AggProofs
import Mp.Analysis
import Mp.AnyOfProofs
import Mp.ArrayFuncs
import Mp.Ast
import Mp.BytesOrd
import Mp.C11Bridge
import Mp.CacheKeyProofs
import Mp.CacheProofs
import Mp.CarrierProofs
import Mp.ChunkProofs
import Mp.CmpFunc
import Mp.ConcSys
import Mp.ConvertProofs
import Mp.Cue
import Mp.CueAst
import Mp.CueAstBridge
import Mp.CueAstF
import Mp.CueAstFProofs
import Mp.CueAstProofs
import Mp.CueDeps
import Mp.CueFunc
import Mp.CueFunc2
import Mp.CueFunc3
import Mp.CueProofs
import Mp.CueSteps
import Mp.CueWalk
import Mp.DecOps
import Mp.DecProofs
import Mp.Deps
import Mp.DivProofs
import Mp.Driver
import Mp.EscBridge
import Mp.EscProofs
import Mp.Eval
import Mp.EvalS
import Mp.EvalStruct
import Mp.F64
import Mp.FactChecks
import Mp.FactChecks2
import Mp.FilterProofs
import Mp.Fold
import Mp.FoldProofs
import Mp.Generated.Facts
import Mp.Generated.FuncTable
import Mp.Generated.Interface
import Mp.Generated.Unicode
import Mp.GoVal
import Mp.GroupProofs
import Mp.IndexProofs
import Mp.InterfaceChecks
import Mp.Json
import Mp.JsonDoc
import Mp.JsonOut
import Mp.JsonOutPerm
import Mp.JsonOutProofs
import Mp.JsonPath
import Mp.JsonProofs
import Mp.Lex
import Mp.LexProofs
import Mp.Lockset
import Mp.MarkIrrel
import Mp.MarkProofs
import Mp.ModProofs
import Mp.NoPanic
import Mp.NonInterference
import Mp.NullProofs
import Mp.NumeralProofs
import Mp.OrdProofs
import Mp.Parse
import Mp.ParseLogicProofs
import Mp.ParseProofs
import Mp.PathRefines
import Mp.PermProofs
import Mp.PoolProofs
import Mp.Print
import Mp.Props.C01
import Mp.Props.C02
import Mp.Props.C03
import Mp.Props.C04
import Mp.Props.C05
import Mp.Props.C06
import Mp.Props.C07
import Mp.Props.C08
import Mp.Props.C09
import Mp.Props.C10
import Mp.Props.C11
import Mp.Props.C12
import Mp.Props.C13
import Mp.Props.C14
import Mp.Props.C15
import Mp.Props.C16
import Mp.Props.C17
import Mp.Props.C18
import Mp.Props.C19
import Mp.Props.C20
import Mp.PureFuncEqs
import Mp.ReadSet
import Mp.ReflLemmas
import Mp.ReplaceAllProofs
import Mp.RescaleProofs
import Mp.ReturnKinds
import Mp.RoundTrip
import Mp.RoundTripGo
import Mp.RoundTripLex
import Mp.RoundTripStr
import Mp.SelectProject
import Mp.SelectProofs
import Mp.SortProofs
import Mp.SprintStruct
import Mp.StringCounts
import Mp.StringFuncs
import Mp.Tree
