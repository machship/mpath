import Mp.CueFunc
/-! C14 — chains of calls (`validateCalls`): the model counts arguments, it does not look at their kind. Core-only. -/
namespace Mp
open Generated

/-- the names of the table are distinct -/
theorem lookup_self : ∀ fd ∈ funcTable, lookupFunc fd.name = some fd := by decide +kernel

/-- C14, over-long argument lists are rejected: for every function that is not variadic and every count above the number of
    declared parameters, the chain is rejected at that call - whatever the receiver type, whatever comes after -/
theorem over_long_rejected (fd : FuncDesc) (hfd : fd ∈ funcTable) (hv : fd.params.any (fun p => p.2 == "Variadic") = false)
    (nargs : Nat) (hn : fd.params.length < nargs) (last : CTy) (rest : List (String × Nat)) (prev : String × String) (b : Bool) :
    validateCalls last ((fd.name, nargs) :: rest) prev b = none := by
  have : argCountOk fd nargs = false := by simp [argCountOk, hv, hn]
  simp [validateCalls, lookup_self fd hfd, this]

/-- `x.AsArray().AsArray()` is a list of lists: the element type is not carried through the second AsArray, and what First / Last
    hand back from it is reported as Any -/
theorem asArray_twice_then_element : ∀ t ∈ ["String", "Number", "Boolean", "Object", "Any"], ∀ f ∈ ["First", "Last"],
    validateCalls (.prim "top") [("AsArray", 0), ("AsArray", 0), (f, 0)] (t, "Single") false = some ("Any", "Single") := by
  decide +kernel

/-- one level deep it is known -/
theorem asArray_once_then_element : ∀ t ∈ ["String", "Number", "Boolean", "Object", "Any"], ∀ f ∈ ["First", "Last"],
    validateCalls (.prim "top") [("AsArray", 0), (f, 0)] (t, "Single") false = some (t, "Single") := by
  decide +kernel

#print axioms lookup_self
#print axioms over_long_rejected
#print axioms asArray_twice_then_element
#print axioms asArray_once_then_element
end Mp
