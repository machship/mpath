import Mp.Eval
/-! `pureFunc` by name: the longer arms of its match as functions of the argument list and the receiver (`Mp.Fn.*`, the same
    text; `isEmptyVal` is its local `isEmpty`) and one defining equation per function name. The equations and the `Fn.*` lemmas
    on a number or string argument are `simp`: rewriting `pureFunc "Name" ps v` to `some (Fn.… ps v)` is the unstated first
    step of the `by simp [h]` proofs in the modules about the functions. Core-only. -/
namespace Mp

def isEmptyVal (v : GoVal) : Bool := match v with | .nil => true | v => cmpZero v

@[simp] theorem firstOfNumber_num (d : Dec) : firstOfNumber [.num d] = some d := rfl

theorem okBool_inj {b c : Bool} : okBool b = okBool c ↔ b = c := by simp [okBool]

namespace Fn
variable (ps : List Prm) (val : GoVal)

def decBool (f : Ordering → Bool) : Out :=
  match firstOfNumber ps with
  | none => .err
  | some p => match val with | .dec d => okBool (f (Dec.cmp d p)) | _ => .err

def strBool (f : Bytes → Bytes → Bool) (inv : Bool) : Out :=
  match firstOfString ps with
  | none => .err
  | some p => match val with | .str false s => okBool (f s p != inv) | _ => .err

def equal : Out :=
  if ps.length != 1 then .err else
  match ps.head!, val with
  | .num p, .dec d => okBool (Dec.cmp d p == .eq)
  | _, .dec _ => okBool false
  | p, v => okBool (goEq v p)

def neg (o : Out) : Out := match o with | .ok (.bool _ b) => okBool (!b) | o => o

def decOp (f : Dec → Dec → Dec) (guardZero : Bool) (inRange : Dec → Dec → Bool) : Out :=
  match firstOfNumber ps with
  | none => .err
  | some p =>
    if guardZero && p.isZero then .err else
    match val with | .dec d => if inRange d p then okDec (f d p) else .err | _ => .err

def nullary (b : Bool) : Out := if !ps.isEmpty then .err else okBool b

def invert : Out := match val with | .bool false b => okBool (!b) | _ => .err

def pick (sel : List RV → Option RV) : Out :=
  if !ps.isEmpty then .err else
  let emptyList := match val with | .slice _ _ [] => true | .array _ [] => true | _ => false
  if emptyList then .err else
  if isEmptyValue (RV.of val) then okDec Dec.zero else
  match listOf val with
  | some xs => match sel xs with | some x => .ok (numberKindsToDecimal x.toAny) | none => .err
  | none => .err

def count : Out :=
  if !ps.isEmpty then .err else
  if isEmptyValue (RV.of val) then okDec Dec.zero else
  match listOf val with | some xs => okDec (Dec.ofNat xs.length) | none => okDec Dec.zero

def any : Out :=
  if !ps.isEmpty then .err else
  if isEmptyValue (RV.of val) then okBool false else
  match (RV.of val).derefOnce with
  | .val (.slice _ _ xs) => okBool (!xs.isEmpty)
  | .val (.array _ xs) => okBool (!xs.isEmpty)
  | .val (.struct n vs) => okBool (reflZero (.struct n vs))
  | .val (.dec _) => okBool false
  | _ => okBool false

def index : Out :=
  match firstOfNumber ps with
  | none => .err
  | some p =>
    if !p.isInteger then .err else
    let emptyList := match val with | .slice _ _ [] => true | .array _ [] => true | _ => false
    if emptyList then .err else
    if isEmptyValue (RV.of val) then okDec Dec.zero else
    match listOf val with
    | some xs =>
      if p.isNegative || Dec.cmp p (Dec.ofNat xs.length) != .lt then .err
      else match xs[p.intPart.toNat]? with | some x => .ok (numberKindsToDecimal x.toAny) | none => .err
    | none => .err

def parseJSON : Out :=
  if !ps.isEmpty then .err else
  if isEmptyValue (RV.of val) then .ok (.map .str true [] []) else
  match val with
  | .str false s =>
    (match GoJson.unmarshalObject s with
     | none => .unmodelled
     | some none => .err
     | some (some m) => .ok m)
  | _ => .err

def asJSON : Out :=
  if !ps.isEmpty then .err else
  if isEmptyValue (RV.of val) then .ok (.str false []) else
  match GoJson.marshal val with
  | .ok t => .ok (.str false t)
  | .bad => .err
  | .decline => .unmodelled

def replaceAll : Out :=
  if ps.length != 2 then .err else
  match prmStrings ps with
  | find :: repl :: _ => if find.isEmpty then .err else (match val with | .str false s => okStr (replaceAllB s find repl) | _ => .err)
  | [find] => if find.isEmpty then .err else .err
  | _ => .err

/-- RemoveKeysByPrefix / RemoveKeysBySuffix, `drop p k` saying whether the key `k` goes -/
def removeKeys (drop : Bytes → Bytes → Bool) : Out :=
  if ps.length != 1 then .err else
  match firstOfString ps with
  | none => .err
  | some p => match (RV.of val).derefOnce with
    | .val (.map kk _ keys vals) =>
      let kept := (keys.zip vals).filter (fun kv => !(drop p kv.1))
      .ok (.map kk false (kept.map (·.1)) (kept.map (·.2)))
    | _ => .err

@[simp] theorem decBool_num (a b : Dec) (f) : decBool [.num b] (.dec a) f = okBool (f (Dec.cmp a b)) := rfl
@[simp] theorem strBool_str (s p : Bytes) (f inv) : strBool [.str p] (.str false s) f inv = okBool (f s p != inv) := rfl
@[simp] theorem equal_num (a b : Dec) : equal [.num b] (.dec a) = okBool (Dec.cmp a b == .eq) := rfl
@[simp] theorem neg_okBool (b : Bool) : neg (okBool b) = okBool (!b) := rfl
@[simp] theorem decOp_num (a b : Dec) (f guardZero inRange) :
    decOp [.num b] (.dec a) f guardZero inRange =
      if guardZero && b.isZero then .err else if inRange a b then okDec (f a b) else .err := rfl
@[simp] theorem nullary_cons (p : Prm) (b : Bool) : nullary (p :: ps) b = .err := rfl

end Fn

/-! The range of each helper, an error or a Boolean (a number, a string), as an elimination: a predicate that holds of those
    outcomes holds of what the helper returns. ReturnKinds uses it at `Out.isBool` / `isDec` / `isStr`, NoPanic at `Out.np`. -/
section
variable {p : Out → Bool} {ps : List Prm} {val : GoVal} (he : p .err = true)
include he

section
variable (hb : ∀ b, p (okBool b) = true)
include hb

theorem Fn.decBool_elim (f) : p (Fn.decBool ps val f) = true := by
  unfold Fn.decBool
  (repeat' split) <;> simp only [he, hb]
theorem Fn.strBool_elim (f inv) : p (Fn.strBool ps val f inv) = true := by
  unfold Fn.strBool
  (repeat' split) <;> simp only [he, hb]
theorem Fn.equal_elim : p (Fn.equal ps val) = true := by
  unfold Fn.equal
  (repeat' split) <;> simp only [he, hb]
omit he in
theorem Fn.neg_elim (o : Out) (h : p o = true) : p (Fn.neg o) = true := by
  unfold Fn.neg
  split
  · exact hb _
  · exact h
theorem Fn.invert_elim : p (Fn.invert val) = true := by
  unfold Fn.invert
  split <;> simp only [he, hb]
theorem Fn.any_elim : p (Fn.any ps val) = true := by
  unfold Fn.any
  (repeat' split) <;> simp only [he, hb]
theorem Fn.nullary_elim (b) : p (Fn.nullary ps b) = true := by
  unfold Fn.nullary
  split <;> simp only [he, hb]

end

section
variable (hd : ∀ d, p (okDec d) = true)
include hd

theorem decimalSlice_elim (f) : p (decimalSlice ps val f) = true := by
  unfold decimalSlice
  dsimp only
  split <;> simp only [he, hd]
theorem Fn.count_elim : p (Fn.count ps val) = true := by
  unfold Fn.count
  (repeat' split) <;> simp only [he, hd]
theorem Fn.decOp_elim (f guardZero inRange) : p (Fn.decOp ps val f guardZero inRange) = true := by
  unfold Fn.decOp
  (repeat' split) <;> simp only [he, hd]

end

section
variable (hs : ∀ s, p (okStr s) = true)
include hs

theorem stringPart_elim (f) : p (stringPart ps val f) = true := by
  unfold stringPart
  split
  · exact he
  · extract_lets n
    (repeat' split) <;> simp only [he, hs]
theorem Fn.replaceAll_elim : p (Fn.replaceAll ps val) = true := by
  unfold Fn.replaceAll
  (repeat' split) <;> simp only [he, hs]

end
end

/-! `pureFunc.match_22.eq_k` is Lean's equation for the k-th arm of the match on the name; rewriting with it skips the
comparison with the k−1 names before it, which `rfl` alone runs string by string. Both numbers go by position: a `match`
added to or removed from `pureFunc`, or an arm moved, shifts them, and the proofs below fail at `rewrite`. -/
section
variable (ps : List Prm) (v : GoVal)

@[simp] theorem pureFunc_Equal : pureFunc "Equal" ps v = some (Fn.equal ps v) := by
  unfold pureFunc; rewrite [pureFunc.match_22.eq_1]; rfl
@[simp] theorem pureFunc_NotEqual : pureFunc "NotEqual" ps v = some (Fn.neg (Fn.equal ps v)) := by
  unfold pureFunc; rewrite [pureFunc.match_22.eq_2]; rfl
@[simp] theorem pureFunc_Less : pureFunc "Less" ps v = some (Fn.decBool ps v (· == .lt)) := by
  unfold pureFunc; rewrite [pureFunc.match_22.eq_3]; rfl
@[simp] theorem pureFunc_LessOrEqual : pureFunc "LessOrEqual" ps v = some (Fn.decBool ps v (· != .gt)) := by
  unfold pureFunc; rewrite [pureFunc.match_22.eq_4]; rfl
@[simp] theorem pureFunc_Greater : pureFunc "Greater" ps v = some (Fn.decBool ps v (· == .gt)) := by
  unfold pureFunc; rewrite [pureFunc.match_22.eq_5]; rfl
@[simp] theorem pureFunc_GreaterOrEqual : pureFunc "GreaterOrEqual" ps v = some (Fn.decBool ps v (· != .lt)) := by
  unfold pureFunc; rewrite [pureFunc.match_22.eq_6]; rfl
@[simp] theorem pureFunc_Invert : pureFunc "Invert" ps v = some (Fn.invert v) := by
  unfold pureFunc; rewrite [pureFunc.match_22.eq_7]; rfl
@[simp] theorem pureFunc_Not : pureFunc "Not" ps v = some (Fn.invert v) := by
  unfold pureFunc; rewrite [pureFunc.match_22.eq_8]; rfl
@[simp] theorem pureFunc_Contains : pureFunc "Contains" ps v = some (Fn.strBool ps v (fun s p => isInfix p s) false) := by
  unfold pureFunc; rewrite [pureFunc.match_22.eq_9]; rfl
@[simp] theorem pureFunc_NotContains : pureFunc "NotContains" ps v = some (Fn.strBool ps v (fun s p => isInfix p s) true) := by
  unfold pureFunc; rewrite [pureFunc.match_22.eq_10]; rfl
@[simp] theorem pureFunc_Prefix : pureFunc "Prefix" ps v = some (Fn.strBool ps v (fun s p => p.isPrefixOf s) false) := by
  unfold pureFunc; rewrite [pureFunc.match_22.eq_11]; rfl
@[simp] theorem pureFunc_NotPrefix : pureFunc "NotPrefix" ps v = some (Fn.strBool ps v (fun s p => p.isPrefixOf s) true) := by
  unfold pureFunc; rewrite [pureFunc.match_22.eq_12]; rfl
@[simp] theorem pureFunc_Suffix : pureFunc "Suffix" ps v = some (Fn.strBool ps v (fun s p => p.isSuffixOf s) false) := by
  unfold pureFunc; rewrite [pureFunc.match_22.eq_13]; rfl
@[simp] theorem pureFunc_NotSuffix : pureFunc "NotSuffix" ps v = some (Fn.strBool ps v (fun s p => p.isSuffixOf s) true) := by
  unfold pureFunc; rewrite [pureFunc.match_22.eq_14]; rfl
@[simp] theorem pureFunc_Count : pureFunc "Count" ps v = some (Fn.count ps v) := by
  unfold pureFunc; rewrite [pureFunc.match_22.eq_15]; rfl
@[simp] theorem pureFunc_Any : pureFunc "Any" ps v = some (Fn.any ps v) := by
  unfold pureFunc; rewrite [pureFunc.match_22.eq_16]; rfl
@[simp] theorem pureFunc_First : pureFunc "First" ps v = some (Fn.pick ps v (·.head?)) := by
  unfold pureFunc; rewrite [pureFunc.match_22.eq_17]; rfl
@[simp] theorem pureFunc_Last : pureFunc "Last" ps v = some (Fn.pick ps v (·.getLast?)) := by
  unfold pureFunc; rewrite [pureFunc.match_22.eq_18]; rfl
@[simp] theorem pureFunc_Index : pureFunc "Index" ps v = some (Fn.index ps v) := by
  unfold pureFunc; rewrite [pureFunc.match_22.eq_19]; rfl
@[simp] theorem pureFunc_Sum : pureFunc "Sum" ps v = some (decimalSlice ps v Dec.sumL) := by
  unfold pureFunc; rewrite [pureFunc.match_22.eq_20]; rfl
@[simp] theorem pureFunc_Average : pureFunc "Average" ps v = some (decimalSlice ps v Dec.avgL) := by
  unfold pureFunc; rewrite [pureFunc.match_22.eq_21]; rfl
@[simp] theorem pureFunc_Minimum : pureFunc "Minimum" ps v = some (decimalSlice ps v Dec.minL) := by
  unfold pureFunc; rewrite [pureFunc.match_22.eq_22]; rfl
@[simp] theorem pureFunc_Maximum : pureFunc "Maximum" ps v = some (decimalSlice ps v Dec.maxL) := by
  unfold pureFunc; rewrite [pureFunc.match_22.eq_23]; rfl
@[simp] theorem pureFunc_AsArray : pureFunc "AsArray" ps v = some (.ok (.slice true false [v])) := by
  unfold pureFunc; rewrite [pureFunc.match_22.eq_24]; rfl
@[simp] theorem pureFunc_ParseJSON : pureFunc "ParseJSON" ps v = some (Fn.parseJSON ps v) := by
  unfold pureFunc; rewrite [pureFunc.match_22.eq_25]; rfl
@[simp] theorem pureFunc_AsJSON : pureFunc "AsJSON" ps v = some (Fn.asJSON ps v) := by
  unfold pureFunc; rewrite [pureFunc.match_22.eq_26]; rfl
@[simp] theorem pureFunc_Add : pureFunc "Add" ps v = some (Fn.decOp ps v Dec.add false (fun _ _ => true)) := by
  unfold pureFunc; rewrite [pureFunc.match_22.eq_27]; rfl
@[simp] theorem pureFunc_Subtract : pureFunc "Subtract" ps v = some (Fn.decOp ps v Dec.sub false (fun _ _ => true)) := by
  unfold pureFunc; rewrite [pureFunc.match_22.eq_28]; rfl
@[simp] theorem pureFunc_Multiply :
    pureFunc "Multiply" ps v = some (Fn.decOp ps v Dec.mul false (fun d p => inI32 (d.exp + p.exp))) := by
  unfold pureFunc; rewrite [pureFunc.match_22.eq_29]; rfl
@[simp] theorem pureFunc_Divide : pureFunc "Divide" ps v = some (Fn.decOp ps v Dec.div true (fun _ _ => true)) := by
  unfold pureFunc; rewrite [pureFunc.match_22.eq_30]; rfl
@[simp] theorem pureFunc_Modulo : pureFunc "Modulo" ps v = some (Fn.decOp ps v Dec.mod true (fun _ _ => true)) := by
  unfold pureFunc; rewrite [pureFunc.match_22.eq_31]; rfl
@[simp] theorem pureFunc_AnyOf : pureFunc "AnyOf" ps v = some (okBool (pureFunc.go v (prmAll ps))) := by
  unfold pureFunc; rewrite [pureFunc.match_22.eq_32]; rfl
@[simp] theorem pureFunc_TrimRight :
    pureFunc "TrimRight" ps v = some (stringPart ps v (fun s i => if s.length ≤ i then [] else s.take (s.length - i))) := by
  unfold pureFunc; rewrite [pureFunc.match_22.eq_33]; rfl
@[simp] theorem pureFunc_TrimLeft :
    pureFunc "TrimLeft" ps v = some (stringPart ps v (fun s i => if s.length ≤ i then [] else s.drop i)) := by
  unfold pureFunc; rewrite [pureFunc.match_22.eq_34]; rfl
@[simp] theorem pureFunc_Right :
    pureFunc "Right" ps v = some (stringPart ps v (fun s i => if s.length < i then s else s.drop (s.length - i))) := by
  unfold pureFunc; rewrite [pureFunc.match_22.eq_35]; rfl
@[simp] theorem pureFunc_Left :
    pureFunc "Left" ps v = some (stringPart ps v (fun s i => if s.length < i then s else s.take i)) := by
  unfold pureFunc; rewrite [pureFunc.match_22.eq_36]; rfl
@[simp] theorem pureFunc_ReplaceAll : pureFunc "ReplaceAll" ps v = some (Fn.replaceAll ps v) := by
  unfold pureFunc; rewrite [pureFunc.match_22.eq_37]; rfl
@[simp] theorem pureFunc_IsNull : pureFunc "IsNull" ps v = some (Fn.nullary ps (isNilVal v)) := by
  unfold pureFunc; rewrite [pureFunc.match_22.eq_38]; rfl
@[simp] theorem pureFunc_IsNotNull : pureFunc "IsNotNull" ps v = some (Fn.nullary ps (!isNilVal v)) := by
  unfold pureFunc; rewrite [pureFunc.match_22.eq_39]; rfl
@[simp] theorem pureFunc_IsEmpty : pureFunc "IsEmpty" ps v = some (Fn.nullary ps (isEmptyVal v)) := by
  unfold pureFunc; rewrite [pureFunc.match_22.eq_40]; rfl
@[simp] theorem pureFunc_IsNotEmpty : pureFunc "IsNotEmpty" ps v = some (Fn.nullary ps (!isEmptyVal v)) := by
  unfold pureFunc; rewrite [pureFunc.match_22.eq_41]; rfl
@[simp] theorem pureFunc_IsNullOrEmpty : pureFunc "IsNullOrEmpty" ps v = some (Fn.nullary ps (isNilVal v || isEmptyVal v)) := by
  unfold pureFunc; rewrite [pureFunc.match_22.eq_42]; rfl
@[simp] theorem pureFunc_IsNotNullOrEmpty :
    pureFunc "IsNotNullOrEmpty" ps v = some (Fn.nullary ps (!(isNilVal v || isEmptyVal v))) := by
  unfold pureFunc; rewrite [pureFunc.match_22.eq_43]; rfl
@[simp] theorem pureFunc_RemoveKeysByPrefix : pureFunc "RemoveKeysByPrefix" ps v = some (Fn.removeKeys ps v List.isPrefixOf) := by
  unfold pureFunc; rewrite [pureFunc.match_22.eq_44]; rfl
@[simp] theorem pureFunc_RemoveKeysBySuffix : pureFunc "RemoveKeysBySuffix" ps v = some (Fn.removeKeys ps v List.isSuffixOf) := by
  unfold pureFunc; rewrite [pureFunc.match_22.eq_45]; rfl
end

/-! The closing `rfl` of the next two identifies the `match` of the statement with that of `pureFunc`: same cases, two matchers. -/
theorem pureFunc_ParseJSON_str {text : Bytes} (h : text.isEmpty = false) :
    pureFunc "ParseJSON" [] (.str false text) =
      some (match GoJson.unmarshalObject text with | none => .unmodelled | some none => .err | some (some m) => .ok m) := by
  rw [pureFunc_ParseJSON]
  simp only [Fn.parseJSON, List.isEmpty_nil, isEmptyValue, RV.of, h]
  rfl

theorem pureFunc_AsJSON_nonempty {v : GoVal} (h : isEmptyValue (RV.of v) = false) :
    pureFunc "AsJSON" [] v =
      some (match GoJson.marshal v with | .ok t => .ok (.str false t) | .bad => .err | .decline => .unmodelled) := by
  rw [pureFunc_AsJSON]
  simp only [Fn.asJSON, List.isEmpty_nil, h]
  rfl

end Mp
