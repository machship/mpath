import Mp.Cue
/-! C13 — what `findValueAtPath` does one key at a time (the `fvp_*` lemmas). Core-only. -/
namespace Mp

/-- the specification of the validator's loop (`validate_walk`, `Mp/CueSteps.lean`): a plain recursive walk of the schema -/
def specWalk : CTy → List String → VRes
  | v, [] => match kindOf v with
    | some (t, io) => .acc t io
    | none => .rej "other"
  | v, k :: ks =>
    match kindOf v with
    | none => .rej "other"
    | some (t, io) =>
      if io == "Single" && isPrimitive t then .rej "primitive"
      else if io == "Array" then .rej "array"
      else match stepKey v k with
        | none => .rej "notfound"
        | some w => specWalk w ks

theorem stepKey_top (k : String) : stepKey (.prim "top") k = some (.prim "top") := by
  unfold stepKey; rfl

theorem fvp_top (p : List String) : findValueAtPath (.prim "top") p = some (.prim "top") := by
  cases p <;> rfl

/-- at `top` every key stays at `top`, so the early return of the code needs no case of its own -/
theorem fvp_cons (v : CTy) (k : String) (ks : List String) :
    findValueAtPath v (k :: ks) = (stepKey v k).bind (fun w => findValueAtPath w ks) := by
  conv => lhs; unfold findValueAtPath
  split
  · simp [stepKey_top, fvp_top]
  · cases stepKey v k <;> rfl

theorem fvp_single (v : CTy) (k : String) : findValueAtPath v [k] = stepKey v k := by
  rw [fvp_cons]
  cases stepKey v k <;> rfl

theorem fvp_snoc (k : String) : ∀ (p : List String) (v : CTy),
    findValueAtPath v (p ++ [k]) = (findValueAtPath v p).bind (fun w => stepKey w k) := by
  intro p
  induction p with
  | nil => exact fun v => fvp_single v k
  | cons k0 ks ih =>
    intro v
    simp only [List.cons_append, fvp_cons, ih, Option.bind_assoc]

theorem kindOf_io (v : CTy) (t io : String) (h : kindOf v = some (t, io)) : io = "Single" ∨ io = "Array" := by
  revert h
  fun_cases kindOf v
  -- a primitive (case 1) and a list of a primitive (case 4) ask `primKind`; the other five cases of `kindOf` return a constant
  case case1 k | case4 _ k =>
    cases primKind k <;> rintro ⟨⟩
    simp
  all_goals
    rintro ⟨⟩
    simp

end Mp
