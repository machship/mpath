import Mp.CueFunc
/-! C14 — the type the validator reports for a call (`funcReturns`). Core-only. -/
namespace Mp
open Generated

theorem reports_descriptor_type (fd : FuncDesc) (prev : String × String) (pf : Bool) (last : CTy)
    (h : fd.returns.1 ≠ "Any") (hk : fd.returnsKnown = false) : funcReturns fd prev pf last = fd.returns := by
  unfold funcReturns
  simp [h, hk]

/-- ReturnsKnownValues is set only on the Any-returning element selectors -/
theorem concrete_rows_not_known : ∀ fd ∈ funcTable, fd.returns.1 ≠ "Any" → fd.returnsKnown = false := by decide +kernel

theorem selector_rows : ∀ fd ∈ funcTable, fd.name = "First" ∨ fd.name = "Last" ∨ fd.name = "Index" →
    fd.returns = ("Any", "Single") ∧ fd.returnsKnown = true ∧ fd.name ≠ "Select" ∧ fd.name ≠ "AsArray" := by decide +kernel

theorem funcReturns_selector (fd : FuncDesc) (hfd : fd ∈ funcTable) (hn : fd.name = "First" ∨ fd.name = "Last" ∨ fd.name = "Index")
    (prev : String × String) (pf : Bool) (last : CTy) :
    funcReturns fd prev pf last =
      (if pf then (if prev.2 == "Array" then prev.1 else "Any")
       else if prev.2 == "Array" && isStructKind last then "Object" else underlyingKind last, "Single") := by
  obtain ⟨hr, hk, hs, ha⟩ := selector_rows fd hfd hn
  unfold funcReturns
  cases pf <;> simp [hr, hk, hs, ha]

/-- C14: First / Last / Index applied directly to a field declared as a list of a primitive type report the ELEMENT's type -/
theorem element_type_of_typed_list (fd : FuncDesc) (hfd : fd ∈ funcTable) (hn : fd.name = "First" ∨ fd.name = "Last" ∨ fd.name = "Index")
    (isOpen : Bool) (k : String) (t : String) (hk : primKind k = some t) (ht : t ≠ "Any") :
    funcReturns fd (t, "Array") false (.list isOpen (.prim k)) = (t, "Single") := by
  rw [funcReturns_selector fd hfd hn]
  unfold primKind at hk
  split at hk <;> cases hk <;> rfl

theorem element_type_of_struct_list (fd : FuncDesc) (hfd : fd ∈ funcTable) (hn : fd.name = "First" ∨ fd.name = "Last" ∨ fd.name = "Index")
    (isOpen o2 : Bool) (fs : List CField) :
    funcReturns fd ("Object", "Array") false (.list isOpen (.struct o2 fs)) = ("Object", "Single") := by
  simp [funcReturns_selector fd hfd hn, isStructKind]

/-- after another call the element type comes from that call's reported type, not from the schema of the last field -/
theorem element_type_after_call (fd : FuncDesc) (hfd : fd ∈ funcTable) (hn : fd.name = "First" ∨ fd.name = "Last" ∨ fd.name = "Index")
    (t : String) (last : CTy) : funcReturns fd (t, "Array") true last = (t, "Single") := by
  simp [funcReturns_selector fd hfd hn]

#print axioms reports_descriptor_type
#print axioms concrete_rows_not_known
#print axioms element_type_of_typed_list
#print axioms element_type_of_struct_list
#print axioms element_type_after_call
end Mp
