import Mp.EvalS
/-! C17 — `Select(q)` returns, in order, the results of running `q` on each element, flattening array results;
    the first element on which `q` fails decides the outcome. (`selectList` is the loop of `func_Select`; the element
    evaluation is a parameter, so the statements hold for every sub-query.) -/
namespace Mp

def selContrib (r : GoVal) : List GoVal := match isSliceKind r with | some ys => ys | none => [r]

theorem selectList_cons_ok {f : GoVal → Out} {x r : GoVal} (h : f x = .ok r) (xs acc : List GoVal) :
    selectList f (x :: xs) acc = selectList f xs (acc ++ selContrib r) := by
  rw [selectList, h, selContrib]
  dsimp only
  cases isSliceKind r <;> rfl

theorem selectList_append (f : GoVal → Out) (r : GoVal → GoVal) (pre rest acc : List GoVal) (h : ∀ x ∈ pre, f x = .ok (r x)) :
    selectList f (pre ++ rest) acc = selectList f rest (acc ++ pre.flatMap fun x => selContrib (r x)) := by
  induction pre generalizing acc with
  | nil => simp
  | cons x xs ih =>
    rw [List.forall_mem_cons] at h
    rw [List.cons_append, selectList_cons_ok h.1, ih _ h.2]
    simp [List.append_assoc]

theorem select_spec (f : GoVal → Out) (r : GoVal → GoVal) (xs : List GoVal) (h : ∀ x ∈ xs, f x = .ok (r x)) :
    selectList f xs [] = .ok (.slice true (xs.flatMap (fun x => selContrib (r x))).isEmpty
                               (xs.flatMap (fun x => selContrib (r x)))) := by
  simpa [selectList] using selectList_append f r xs [] [] h

theorem select_first_failure (f : GoVal → Out) (r : GoVal → GoVal) (pre post : List GoVal) (x : GoVal) (e : Out)
    (hpre : ∀ y ∈ pre, f y = .ok (r y)) (hx : f x = e) (hne : ∀ v, e ≠ .ok v) :
    ∀ acc, selectList f (pre ++ x :: post) acc = e := by
  intro acc
  rw [selectList_append f r pre _ acc hpre, selectList, hx]
  cases e with
  | ok v => exact absurd rfl (hne v)
  | _ => rfl

theorem select_scalar_length (f : GoVal → Out) (r : GoVal → GoVal) (xs : List GoVal)
    (h : ∀ x ∈ xs, f x = .ok (r x)) (hs : ∀ x ∈ xs, isSliceKind (r x) = none) :
    selectList f xs [] = .ok (.slice true xs.isEmpty (xs.map r)) := by
  have hc : ∀ x ∈ xs, selContrib (r x) = [r x] := fun x hx => by rw [selContrib, hs x hx]
  rw [select_spec f r xs h, List.flatMap_def, List.map_congr_left hc, ← List.flatMap_def, ← List.map_eq_flatMap, List.isEmpty_map]

/-- on a list receiver `Select` is that loop over the elements (Go slices and Go arrays alike) -/
theorem selectOn_slice (ei n : Bool) (xs : List GoVal) (run : GoVal → Out) :
    selectOn (.slice ei n xs) run = selectList run xs [] := rfl

theorem selectOn_array (ei : Bool) (xs : List GoVal) (run : GoVal → Out) :
    selectOn (.array ei xs) run = selectList run xs [] := rfl

#print axioms selectOn_slice
#print axioms selectOn_array
#print axioms select_spec
#print axioms select_first_failure
#print axioms select_scalar_length
end Mp
