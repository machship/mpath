import Mp.PureFuncEqs
import Mp.IndexProofs
/-! C17: First / Last / Index / Any / Count / AsArray return the right element. The receiver is a slice (`.slice ei n xs`)
    throughout; `listOf` hands out the elements of a Go array in the same way, and no statement here speaks of one.
    Core-only, over the function model. -/
namespace Mp

theorem elems_toAny (ei n : Bool) (xs : List GoVal) :
    (RV.elems (.val (.slice ei n xs))).map RV.toAny = xs := by
  cases ei <;> simp [RV.elems, Function.comp_def, RV.toAny]

theorem listOf_slice (ei n : Bool) (xs : List GoVal) :
    listOf (.slice ei n xs) = some (RV.elems (.val (.slice ei n xs))) := rfl

theorem elems_length (ei n : Bool) (xs : List GoVal) : (RV.elems (.val (.slice ei n xs))).length = xs.length := by
  rw [← List.length_map (f := RV.toAny), elems_toAny]

theorem elems_get (ei n : Bool) (xs : List GoVal) (k : Nat) :
    ((RV.elems (.val (.slice ei n xs)))[k]?).map RV.toAny = xs[k]? := by
  rw [← List.getElem?_map, elems_toAny]

/-- what First / Last / Index make of the element they selected -/
def elemOut (r : Option GoVal) : Out := match r with | some y => .ok (numberKindsToDecimal y) | none => .err

theorem elemOut_map (r : Option RV) :
    elemOut (r.map RV.toAny) = match r with | some x => Out.ok (numberKindsToDecimal x.toAny) | none => .err := by
  cases r <;> rfl

theorem Fn.pick_slice (ei n : Bool) (x : GoVal) (xs : List GoVal) (sel : List RV → Option RV) :
    Fn.pick [] (.slice ei n (x :: xs)) sel = elemOut ((sel (RV.elems (.val (.slice ei n (x :: xs))))).map RV.toAny) := by
  rw [elemOut_map]
  rfl

theorem Fn.index_slice (ei n : Bool) (xs : List GoVal) (d : Dec) :
    Fn.index [.num d] (.slice ei n xs) =
      if !d.isInteger then .err else
      if d.isNegative || Dec.cmp d (Dec.ofNat xs.length) != .lt then .err else elemOut xs[d.intPart.toNat]? := by
  cases xs with
  | nil => simp [Fn.index, elemOut]
  | cons y ys =>
    simp only [Fn.index, firstOfNumber_num, listOf_slice, isEmptyValue, RV.of, elems_length, ← elems_get ei n (y :: ys),
      elemOut_map]
    rfl

/-- C17: First returns the element at position 0 of a non-empty array (numbers as decimals) -/
theorem first_spec (ei n : Bool) (x : GoVal) (xs : List GoVal) :
    pureFunc "First" [] (.slice ei n (x :: xs)) = some (.ok (numberKindsToDecimal x)) := by
  rw [pureFunc_First, Fn.pick_slice, ← List.head?_map, elems_toAny]
  rfl

/-- C17: Last returns the element at position length−1 -/
theorem last_spec (ei n : Bool) (x : GoVal) (xs : List GoVal) :
    pureFunc "Last" [] (.slice ei n (x :: xs)) = some (.ok (numberKindsToDecimal ((x :: xs).getLast (by simp)))) := by
  rw [pureFunc_Last, Fn.pick_slice, ← List.getLast?_map, elems_toAny, List.getLast?_eq_some_getLast]
  rfl

/-- C17: First and Last on an empty array are errors (for Index that is `index_out_of_range` at `xs = []`, any k) -/
theorem first_empty (ei n : Bool) : pureFunc "First" [] (.slice ei n []) = some .err := pureFunc_First _ _
theorem last_empty (ei n : Bool) : pureFunc "Last" [] (.slice ei n []) = some .err := pureFunc_Last _ _

theorem Fn.index_of (ei n : Bool) (xs : List GoVal) (d : Dec) (k : Nat) (hd : IsIndex d k) :
    Fn.index [.num d] (.slice ei n xs) = elemOut xs[k]? := by
  obtain ⟨h1, h2, h3, h4⟩ := hd
  rw [Fn.index_slice, h1, h2, h3, h4]
  rcases Nat.lt_or_ge k xs.length with hk | hk
  · rw [Nat.compare_eq_lt.2 hk]
    rfl
  · rw [List.getElem?_eq_none hk]
    simp only [elemOut, ite_self]

theorem index_spec_of (ei n : Bool) (xs : List GoVal) (d : Dec) (k : Nat) (hd : IsIndex d k) (hk : k < xs.length) :
    pureFunc "Index" [.num d] (.slice ei n xs) = some (.ok (numberKindsToDecimal (xs[k]'hk))) := by
  rw [pureFunc_Index, Fn.index_of ei n xs d k hd, List.getElem?_eq_getElem hk]
  rfl

theorem index_out_of_range_of (ei n : Bool) (xs : List GoVal) (d : Dec) (k : Nat) (hd : IsIndex d k) (hk : xs.length ≤ k) :
    pureFunc "Index" [.num d] (.slice ei n xs) = some .err := by
  rw [pureFunc_Index, Fn.index_of ei n xs d k hd, List.getElem?_eq_none hk]
  rfl

/-- C17: Index(k) returns the element at position k for 0 ≤ k < length … -/
theorem index_spec (ei n : Bool) (xs : List GoVal) (k : Nat) (hk : k < xs.length) (hb : k < 2 ^ 63) :
    pureFunc "Index" [.num ⟨k, 0⟩] (.slice ei n xs) = some (.ok (numberKindsToDecimal (xs[k]'hk))) :=
  index_spec_of ei n xs _ k (isIndex_nat k hb) hk

/-- … and an error (not a panic, not another element) for every whole k ≥ length -/
theorem index_out_of_range (ei n : Bool) (xs : List GoVal) (k : Nat) (hk : xs.length ≤ k) (hb : k < 2 ^ 63) :
    pureFunc "Index" [.num ⟨k, 0⟩] (.slice ei n xs) = some .err :=
  index_out_of_range_of ei n xs _ k (isIndex_nat k hb) hk

theorem index_negative (ei n : Bool) (xs : List GoVal) (d : Dec) (hi : d.isInteger = true) (hneg : d.isNegative = true) :
    pureFunc "Index" [.num d] (.slice ei n xs) = some .err := by
  simp [Fn.index_slice, hneg]

theorem index_fractional (v : GoVal) (d : Dec) (hi : d.isInteger = false) :
    pureFunc "Index" [.num d] v = some .err := by
  simp [Fn.index, hi]

/-- C17 identities: First ≡ Index(0) and Last ≡ Index(Count−1) on every non-empty slice -/
theorem first_eq_index0 (ei n : Bool) (x : GoVal) (xs : List GoVal) :
    pureFunc "First" [] (.slice ei n (x :: xs)) = pureFunc "Index" [.num ⟨(0 : Nat), 0⟩] (.slice ei n (x :: xs)) := by
  rw [first_spec, index_spec ei n (x :: xs) 0 (by simp) (by decide)]
  rfl

theorem last_eq_index (ei n : Bool) (x : GoVal) (xs : List GoVal) (hb : xs.length < 2 ^ 63) :
    pureFunc "Last" [] (.slice ei n (x :: xs)) = pureFunc "Index" [.num ⟨((x :: xs).length - 1 : Nat), 0⟩] (.slice ei n (x :: xs)) := by
  rw [last_spec, index_spec ei n (x :: xs) ((x :: xs).length - 1) (Nat.lt_succ_self _) hb, List.getLast_eq_getElem]

/-- C17: Any is length > 0 -/
theorem any_spec (ei n : Bool) (xs : List GoVal) :
    pureFunc "Any" [] (.slice ei n xs) = some (okBool (!xs.isEmpty)) := by
  rw [pureFunc_Any]
  cases xs <;> rfl

/-- C17: Count is the length, for every slice carrier -/
theorem count_spec (ei n : Bool) (xs : List GoVal) :
    pureFunc "Count" [] (.slice ei n xs) = some (okDec (if xs.isEmpty then Dec.zero else Dec.ofNat xs.length)) := by
  cases xs <;> simp [Fn.count, isEmptyValue, RV.of, listOf_slice, elems_length]

/-- C17: AsArray wraps its input in a one-element array -/
theorem asArray_spec (ps : List Prm) (v : GoVal) : pureFunc "AsArray" ps v = some (.ok (.slice true false [v])) :=
  pureFunc_AsArray ps v

/-- C17: `Index` of the whole number k written at any scale (k, k.0, k.000…) is the element at position k -/
theorem index_spec_scaled (ei n : Bool) (xs : List GoVal) (k s : Nat) (hk : k < xs.length) (hb : k < 2 ^ 63) :
    pureFunc "Index" [.num ⟨((k * 10 ^ s : Nat) : Int), -(s : Int)⟩] (.slice ei n xs) = some (.ok (numberKindsToDecimal (xs[k]'hk))) :=
  index_spec_of ei n xs _ k (isIndex_scaled k s hb) hk

theorem index_out_of_range_scaled (ei n : Bool) (xs : List GoVal) (k s : Nat) (hk : xs.length ≤ k) (hb : k < 2 ^ 63) :
    pureFunc "Index" [.num ⟨((k * 10 ^ s : Nat) : Int), -(s : Int)⟩] (.slice ei n xs) = some .err :=
  index_out_of_range_of ei n xs _ k (isIndex_scaled k s hb) hk

theorem index_spec_up (ei n : Bool) (xs : List GoVal) (m e : Nat) (hk : m * 10 ^ e < xs.length) (hb : m * 10 ^ e < 2 ^ 63) :
    pureFunc "Index" [.num ⟨(m : Int), (e : Int)⟩] (.slice ei n xs) = some (.ok (numberKindsToDecimal (xs[m * 10 ^ e]'hk))) :=
  index_spec_of ei n xs _ _ (isIndex_up m e hb) hk

#print axioms first_spec
#print axioms last_spec
#print axioms first_empty
#print axioms last_empty
#print axioms index_spec
#print axioms index_out_of_range
#print axioms index_negative
#print axioms index_fractional
#print axioms first_eq_index0
#print axioms last_eq_index
#print axioms any_spec
#print axioms index_spec_of
#print axioms count_spec
#print axioms index_spec_up
#print axioms index_spec_scaled
#print axioms index_out_of_range_scaled
end Mp
