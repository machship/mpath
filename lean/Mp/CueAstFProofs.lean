import Mp.CueAstF
/-! C13 — what the validator with filters (`Mp/CueAstF.lean`) does at a filter. Core-only. -/
namespace Mp

theorem stoppedF_keeps (root : CTy) (bl eb : List String) (errs : List String) :
    ∀ (rest : List PathPart) (r : List String × (String × String)), vPartsF root bl eb (.stopped errs) rest = some r → r.1 = errs := by
  intro rest r h
  induction rest with
  | nil =>
    cases h
    rfl
  | cons op rest ih =>
    cases op with
    | ident | filter => exact ih h
    | func inv =>
      cases inv with
      | true => cases h
      | false => exact ih h

/-- only lists can be filtered: a filter after keys that lead to a value that is not a list is an error of the path, whatever
    the filter says and whatever follows -/
theorem filter_on_non_list (root : CTy) (bl eb ks : List String) (lo : LogicOp) (us : Bytes) (rest : List PathPart)
    (last : CTy) (prev : String × String) (pwf : Bool) (e : List String)
    (hk : finishKeysB root bl eb ks = some (.calls last prev pwf e)) (hl : isListTy last = false)
    (r : List String × (String × String)) (h : vPartsF root bl eb (.keys ks) (.filter lo us :: rest) = some r) : r.1 = ["other"] := by
  simp only [vPartsF, hk, hl, Bool.not_false, if_true] at h
  exact stoppedF_keeps root bl eb ["other"] rest r h

/-- an error inside a filter ends the walk: the path reports exactly the errors of the filter's group -/
theorem filter_error_ends_walk (root : CTy) (bl eb ks : List String) (lo : LogicOp) (us : Bytes) (rest : List PathPart)
    (last : CTy) (prev : String × String) (pwf : Bool) (e : List String)
    (hk : finishKeysB root bl eb ks = some (.calls last prev pwf e)) (hl : isListTy last = true)
    (errs : List String) (ty : String × String) (hg : vLogicF root bl (eb ++ ks) true lo = some (errs, ty)) (hne : errs ≠ [])
    (r : List String × (String × String)) (h : vPartsF root bl eb (.keys ks) (.filter lo us :: rest) = some r) : r.1 = errs := by
  simp only [vPartsF, hk, hl, Bool.not_true, Bool.false_eq_true, if_false, hg, List.isEmpty_eq_false_iff.2 hne] at h
  exact stoppedF_keeps root bl eb errs rest r h

/-- a filter without an error changes nothing: the path is validated as if the filter were not there -/
theorem clean_filter_transparent (root : CTy) (bl eb ks : List String) (lo : LogicOp) (us : Bytes) (rest : List PathPart)
    (last : CTy) (prev : String × String) (pwf : Bool) (e : List String)
    (hk : finishKeysB root bl eb ks = some (.calls last prev pwf e)) (hl : isListTy last = true)
    (ty : String × String) (hg : vLogicF root bl (eb ++ ks) true lo = some ([], ty)) :
    vPartsF root bl eb (.keys ks) (.filter lo us :: rest) = vPartsF root bl eb (.keys ks) rest := by
  simp only [vPartsF, hk, hl, Bool.not_true, Bool.false_eq_true, if_false, hg, List.isEmpty_nil, if_true]

/-- a filter after a call is an error of that call, and the walk goes on -/
theorem filter_after_call (root : CTy) (bl eb : List String) (lo : LogicOp) (us : Bytes) (rest : List PathPart)
    (last : CTy) (prev : String × String) (pwf : Bool) (e : List String) :
    vPartsF root bl eb (.calls last prev pwf e) (.filter lo us :: rest) = vPartsF root bl eb (.calls last prev pwf (e ++ ["other"])) rest := by
  simp only [vPartsF]

theorem finishKeysB_below_root (root : CTy) (bl : List String) (eb ks : List String) (h : eb ≠ []) :
    finishKeysB root bl eb ks = finishKeysB root [] eb ks := by
  cases eb with
  | nil => exact absurd rfl h
  | cons b bs => rfl

theorem keys_below_root_not_blocked (root : CTy) (bl : List String) (eb : List String) (h : eb ≠ []) (names : List Bytes)
    (ks : List String) :
    vPartsF root bl eb (.keys ks) (names.map (fun n => PathPart.ident n false [])) =
    vPartsF root [] eb (.keys ks) (names.map (fun n => PathPart.ident n false [])) := by
  induction names generalizing ks with
  | nil => simp only [List.map_nil, vPartsF, finishKeysB_below_root root bl eb ks h]
  | cons n ns ih =>
    simp only [List.map_cons, vPartsF]
    cases bytesToString n with
    | none => rfl
    | some s => exact ih (ks ++ [s])

/-- C15: inside a filter on `$.input.items`, the condition path `@.s2.name` is validated the same whether or not `s2` is a blocked
    root field: the blocked list concerns root fields only -/
theorem at_path_below_root_ignores_blocked (root : CTy) (bl base : List String) (h : base ≠ []) (i f m : Bool) (us : Bytes) (names : List Bytes) :
    vPathF root bl base (.mk i false f m (names.map (fun n => PathPart.ident n false [])) us) =
    vPathF root [] base (.mk i false f m (names.map (fun n => PathPart.ident n false [])) us) := by
  simp only [vPathF, Bool.false_eq_true, if_false]
  exact keys_below_root_not_blocked root bl base h names []

end Mp
