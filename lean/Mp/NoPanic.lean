import Mp.GroupProofs
import Mp.PureFuncEqs
/-! C07: no outcome of the structural evaluator is `.panic`, by one mutual walk over the elaborated tree; `pureFunc_np` says
    the same of what the functions of `pureFunc` return. Core-only. -/
namespace Mp

def Out.np : Out → Bool | .panic => false | _ => true

@[simp] theorem np_okBool (b) : (okBool b).np = true := rfl
@[simp] theorem np_okDec (d) : (okDec d).np = true := rfl
@[simp] theorem np_okStr (s) : (okStr s).np = true := rfl
@[simp] theorem np_err : Out.err.np = true := rfl
@[simp] theorem np_ok (v) : (Out.ok v).np = true := rfl

theorem np_ite {c : Prop} [Decidable c] {a b : Out} (ha : a.np = true) (hb : b.np = true) : (if c then a else b).np = true := by
  split <;> assumption

namespace Fn
variable (ps : List Prm) (v : GoVal)

theorem pick_np (sel) : (pick ps v sel).np = true := by
  unfold pick
  refine np_ite rfl (np_ite rfl (np_ite rfl ?_))
  (repeat' split) <;> rfl
theorem index_np : (index ps v).np = true := by
  unfold index
  split
  · rfl
  · refine np_ite rfl (np_ite rfl (np_ite rfl ?_))
    (repeat' split) <;> rfl
theorem parseJSON_np : (parseJSON ps v).np = true := by
  unfold parseJSON
  (repeat' split) <;> rfl
theorem asJSON_np : (asJSON ps v).np = true := by
  unfold asJSON
  (repeat' split) <;> rfl
theorem removeKeys_np (drop) : (removeKeys ps v drop).np = true := by
  unfold removeKeys
  (repeat' split) <;> rfl

end Fn

theorem pureFunc_np (nm : String) (ps : List Prm) (v : GoVal) (o : Out) (h : pureFunc nm ps v = some o) : o.np = true := by
  refine (Option.all_eq_true _ _).mp ?_ o h
  -- by cases on the name through the splitter Lean generated for the match in `pureFunc` (see PureFuncEqs): on each name its
  -- equation (a simp lemma of PureFuncEqs) and the fact about its helper (its `_elim` of PureFuncEqs at `Out.np`, or its `_np`
  -- above), on any other name `none`. 46 = 45 names + the default arm: when `pureFunc` gains a name, `h_46` / `eq_46` become
  -- `h_47` / `eq_47`, and a new helper's fact joins the last lines.
  apply pureFunc.match_22.splitter (motive := fun nm => (pureFunc nm ps v).all Out.np = true) nm
  case h_46 =>
    intros
    unfold pureFunc
    rewrite [pureFunc.match_22.eq_46]
    · rfl
    all_goals assumption
  all_goals simp [Fn.decBool_elim np_err np_okBool, Fn.strBool_elim np_err np_okBool, Fn.equal_elim np_err np_okBool, Fn.neg_elim np_okBool,
    Fn.invert_elim np_err np_okBool, Fn.any_elim np_err np_okBool, Fn.nullary_elim np_err np_okBool, decimalSlice_elim np_err np_okDec,
    Fn.count_elim np_err np_okDec, Fn.decOp_elim np_err np_okDec, stringPart_elim np_err np_okStr, Fn.replaceAll_elim np_err np_okStr,
    Fn.pick_np, Fn.index_np, Fn.parseJSON_np, Fn.asJSON_np, Fn.removeKeys_np]

theorem identDo_np (name : Bytes) (cur : GoVal) : (identDo name cur).np = true := by
  unfold identDo
  split
  · split <;> rfl
  · unfold valuesByName
    simp only []
    (repeat' split) <;> rfl

theorem filterList_np (f : GoVal → Out) (hf : ∀ x, (f x).np = true ∧ (f x).isBoolOrNotOk) :
    ∀ xs acc, (filterList f xs acc).np = true := by
  intro xs
  induction xs with
  | nil => intro acc; rfl
  | cons x xs ih =>
    intro acc
    unfold filterList
    have h1 := (hf x).1
    have h2 := (hf x).2
    generalize f x = r at h1 h2
    cases r with
    | ok v =>
      cases v with
      | bool n b => exact ih _
      | _ => cases h2
    | panic => cases h1
    | _ => rfl

theorem selectList_np (f : GoVal → Out) (hf : ∀ x, (f x).np = true) :
    ∀ xs acc, (selectList f xs acc).np = true := by
  intro xs
  induction xs with
  | nil => intro acc; rfl
  | cons x xs ih =>
    intro acc
    unfold selectList
    split
    · split <;> exact ih _
    · exact hf x

theorem selectOn_np (recv : GoVal) (f : GoVal → Out) (hf : ∀ x, (f x).np = true) : (selectOn recv f).np = true := by
  unfold selectOn
  split <;> first | exact selectList_np f hf _ _ | rfl

def SumNp : Sum Out (List Prm) → Prop
  | .inl o => o.np = true
  | .inr _ => True

theorem spreadOut_np (v : GoVal) : SumNp (spreadOut v) := by
  unfold spreadOut
  split
  · rfl
  · split
    · trivial
    · rfl

theorem np_of_bool (o : Out) (h : o.isBoolOrNotOk) (hp : o.np = true) : o.np = true ∧ o.isBoolOrNotOk := ⟨hp, h⟩

mutual
theorem sPath_np (p : EPath) (cur orig : GoVal) : (sPath p cur orig).np = true := by
  cases p with
  | mk root isFilter ops =>
    unfold sPath
    split
    · rfl
    · extract_lets data
      split
      · rfl
      · exact sParts_np ops _ _ _ _
termination_by structural p

theorem sParts_np (ops : List EPart) (data orig : GoVal) (priorNil : Bool) (prev : Option Bool) :
    (sParts ops data orig priorNil prev).np = true := by
  cases ops with
  | nil => rfl
  | cons op rest =>
    unfold sParts
    extract_lets isFunc prop
    split
    · rfl
    · split
      · exact sParts_np rest _ _ _ _
      · split
        · split
          · rfl
          · exact sParts_np rest _ _ _ _
        · rfl
      · -- `| o => o`: the goal is about `sPart op data orig` itself
        exact sPart_np op data orig
termination_by structural ops

theorem sPart_np (op : EPart) (cur orig : GoVal) : (sPart op cur orig).np = true := by
  cases op with
  | ident name prop => unfold sPart; exact identDo_np name cur
  | filter lo =>
    unfold sPart
    split
    · rfl
    · split
      · rfl
      · rfl
      · -- `| o => o`, as in `sParts_np`
        exact sLogic_np lo _ orig
    · split
      · exact filterList_np _ (fun x => ⟨sLogic_np lo x orig, sLogic_bool lo x orig⟩) _ _
      · rfl
  | func name params sel =>
    unfold sPart
    split
    · rfl
    · split
      · -- `| .inl o => o`: `SumNp (sParams params cur orig)`, read at `.inl o` through `ho`, is the goal
        next o ho => exact (ho ▸ sParams_np params cur orig : SumNp (.inl o))
      · simp only []
        split
        · rfl
        · split
          · next o ho => exact pureFunc_np _ _ _ _ ho
          · exact sSel_np sel _
termination_by structural op

theorem sSel_np (sel : ESel) (recv : GoVal) : (sSel sel recv).np = true := by
  cases sel with
  | path p => unfold sSel; exact selectOn_np _ _ (fun x => sPath_np p x x)
  | logic l => unfold sSel; exact selectOn_np _ _ (fun x => sLogic_np l x x)
  | bad => rfl
  | dyn => rfl
  | none => rfl
termination_by structural sel

theorem sParams_np (ps : List EParam) (cur orig : GoVal) : SumNp (sParams ps cur orig) := by
  cases ps with
  | nil => unfold sParams; trivial
  | cons p rest =>
    unfold sParams
    split
    · -- `| .inl o => .inl o`, here and two lines down: as in the `func` case of `sPart_np`
      next o ho => exact (ho ▸ sParam_np p cur orig : SumNp (.inl o))
    · split
      · next o ho => exact (ho ▸ sParams_np rest cur orig : SumNp (.inl o))
      · trivial
termination_by structural ps

theorem sParam_np (p : EParam) (cur orig : GoVal) : SumNp (sParam p cur orig) := by
  cases p with
  | num d => unfold sParam; trivial
  | str s => unfold sParam; trivial
  | bool b => unfold sParam; trivial
  | path pp =>
    unfold sParam
    split
    · exact spreadOut_np _
    · exact sPath_np pp cur orig
  | logic l =>
    unfold sParam
    split
    · exact spreadOut_np _
    · exact sLogic_np l cur orig
termination_by structural p

theorem sLogic_np (l : ELogic) (cur orig : GoVal) : (sLogic l cur orig).np = true := by
  cases l with
  | mk ty ops => unfold sLogic; exact sLParts_np ty ops cur orig
termination_by structural l

theorem sLParts_np (ty : Bytes) (ops : List ELPart) (cur orig : GoVal) : (sLParts ty ops cur orig).np = true := by
  cases ops with
  | nil => unfold sLParts; (repeat' split) <;> rfl
  | cons op rest =>
    unfold sLParts
    split
    · split
      · split
        · rfl
        · split
          · rfl
          · exact sLParts_np ty rest cur orig
      · rfl
    · -- `| o => o`, as in `sParts_np`
      exact sLPart_np op cur orig
termination_by structural ops

theorem sLPart_np (op : ELPart) (cur orig : GoVal) : (sLPart op cur orig).np = true := by
  cases op with
  | path p => unfold sLPart; exact sPath_np p cur orig
  | logic l => unfold sLPart; exact sLogic_np l cur orig
termination_by structural op
end

/-- C07 (model level): no elaborated path panics on any Go value. For a query that is a group at top level the same fact is `sLogic_np`. -/
theorem eval_never_panics (p : EPath) (d : GoVal) : sPath p d d ≠ .panic := by
  intro h; have := sPath_np p d d; rw [h] at this; cases this

#print axioms pureFunc_np
#print axioms eval_never_panics
end Mp
