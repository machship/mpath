import Mp.JsonProofs
import Mp.PathRefines
import Mp.PureFuncEqs
/-! C10 on the model, ParseJSON: a document parsed inside the query is in the `map[string]any` / `[]any` carrier the C01 refinement
    theorem is about, so what is proved of queries on that carrier holds of it. Unqualified `render` is `GoJson.render`, the
    text; `L2.render` is the Go value. Core-only. -/
namespace Mp.GoJson
open Mp.L2 (Doc)

-- `.num`: `Dec.toBytes` (Print.lean) here and `GoJson.decText` (JsonOut.lean, what `marshal` writes, in quotes) are two models of
-- `Decimal.String()`. No lemma relates them, and none is needed as long as `WF` and `WFo` (JsonOutProofs) exclude numbers.
mutual
def ofDoc : Doc → J
  | .null => .null
  | .bool b => .bool b
  | .num d => .num d.toBytes
  | .str s => .str s
  | .arr xs => .arr (ofDocs xs)
  | .obj ks vs => .obj (ks.zip (ofDocs vs))
def ofDocs : List Doc → List J
  | [] => []
  | d :: ds => ofDoc d :: ofDocs ds
end

mutual
/-- the documents the theorem speaks about: no numbers, strings and keys that need no escape, the keys of an object distinct;
    `L2.Good`, the hypothesis of the C01 refinement (keys distinct up to case, strings that are not numerals), neither implies it
    nor follows from it -/
def WF : Doc → Prop
  | .null => True
  | .bool _ => True
  | .num _ => False
  | .str s => Safe s
  | .arr xs => WFs xs
  | .obj ks vs => ks.length = vs.length ∧ ks.Nodup ∧ (∀ k ∈ ks, Safe k) ∧ WFs vs
def WFs : List Doc → Prop
  | [] => True
  | d :: ds => WF d ∧ WFs ds
end

theorem ofDocs_length (ds : List Doc) : (ofDocs ds).length = ds.length := by
  induction ds with
  | nil => rfl
  | cons d ds ih => simp [ofDocs, ih]

/-- the fold of `dedupLast`, from any accumulator -/
theorem dedupLast_foldl_of_nodup (kvs acc : List (Bytes × GoVal)) (h : (acc ++ kvs).Pairwise (fun a b => a.1 ≠ b.1)) :
    kvs.foldl (fun acc kv => acc.filter (fun p => p.1 != kv.1) ++ [kv]) acc = acc ++ kvs := by
  induction kvs generalizing acc with
  | nil => simp
  | cons kv rest ih =>
    have hfil : acc.filter (fun p => p.1 != kv.1) = acc :=
      List.filter_eq_self.mpr fun p hp => by simpa using (List.pairwise_append.mp h).2.2 p hp kv List.mem_cons_self
    rw [List.foldl_cons, hfil, ih (acc ++ [kv]) (by simpa using h), List.append_assoc]
    rfl

theorem dedupLast_of_nodup (kvs : List (Bytes × GoVal)) (h : (kvs.map (·.1)).Nodup) : dedupLast kvs = kvs :=
  dedupLast_foldl_of_nodup kvs [] (List.pairwise_map.mp h)

mutual
theorem good_ofDoc (d : Doc) (h : WF d) : Good (ofDoc d) := by
  cases d with
  | null => trivial
  | bool b => trivial
  | num x => exact h.elim
  | str s => exact h
  | arr xs => exact good_ofDocs xs h
  | obj ks vs => exact good_members ks vs h.2.2.1 h.2.2.2
termination_by structural d
theorem good_ofDocs (ds : List Doc) (h : WFs ds) : GoodList (ofDocs ds) := by
  cases ds with
  | nil => trivial
  | cons d ds => exact ⟨good_ofDoc d h.1, good_ofDocs ds h.2⟩
termination_by structural ds
theorem good_members (ks : List Bytes) (vs : List Doc) (hk : ∀ k ∈ ks, Safe k) (h : WFs vs) : GoodMembers (ks.zip (ofDocs vs)) := by
  cases ks with
  | nil => trivial
  | cons k ks =>
    cases vs with
    | nil => trivial
    | cons v vs =>
      exact ⟨hk k List.mem_cons_self, good_ofDoc v h.1, good_members ks vs (fun x hx => hk x (List.mem_cons_of_mem _ hx)) h.2⟩
termination_by structural vs
end

mutual
theorem toGo_ofDoc (d : Doc) (h : WF d) : toGo (ofDoc d) = some (L2.render d) := by
  cases d with
  | null => rfl
  | bool b => rfl
  | num x => exact h.elim
  | str s => rfl
  | arr xs => simp only [ofDoc, toGo, L2.render, toGoList_ofDocs xs h, Option.map_some]
  | obj ks vs =>
    obtain ⟨hlen, hnd, hsafe, hw⟩ := h
    have hl : ks.length = (L2.renderList vs).length := by rw [L2.renderList_eq_map, List.length_map, hlen]
    have hded : dedupLast (ks.zip (L2.renderList vs)) = ks.zip (L2.renderList vs) :=
      dedupLast_of_nodup _ (by rwa [List.map_fst_zip (Nat.le_of_eq hl)])
    simp only [ofDoc, toGo, L2.render, toGoMembers_zip ks vs hw, Option.map_some, hded,
      List.map_fst_zip (Nat.le_of_eq hl), List.map_snd_zip (Nat.le_of_eq hl.symm)]
termination_by structural d
theorem toGoList_ofDocs (ds : List Doc) (h : WFs ds) : toGoList (ofDocs ds) = some (L2.renderList ds) := by
  cases ds with
  | nil => rfl
  | cons d ds => simp only [ofDocs, toGoList, L2.renderList, toGo_ofDoc d h.1, toGoList_ofDocs ds h.2]
termination_by structural ds
theorem toGoMembers_zip (ks : List Bytes) (vs : List Doc) (h : WFs vs) : toGoMembers (ks.zip (ofDocs vs)) = some (ks.zip (L2.renderList vs)) := by
  cases ks with
  | nil => rfl
  | cons k ks =>
    cases vs with
    | nil => rfl
    | cons v vs =>
      simp only [ofDocs, List.zip_cons_cons, toGoMembers, L2.renderList, toGo_ofDoc v h.1, toGoMembers_zip ks vs h.2]
termination_by structural vs
end

/-- C10, ParseJSON: parsing the compact JSON text of a document (an object) gives the document in its map / slice carrier -/
theorem parseJSON_of_document (ks : List Bytes) (vs : List Doc) (h : WF (.obj ks vs)) :
    unmarshalObject (render (ofDoc (.obj ks vs))) = some (some (L2.render (.obj ks vs))) :=
  (unmarshal_render_object _ (good_ofDoc _ h)).trans (congrArg some (toGo_ofDoc _ h))

/-- … at the level of the function model: `text.ParseJSON()` returns that carrier -/
theorem parseJSON_func (ks : List Bytes) (vs : List Doc) (h : WF (.obj ks vs)) :
    pureFunc "ParseJSON" [] (.str false (render (ofDoc (.obj ks vs)))) = some (.ok (L2.render (.obj ks vs))) := by
  rw [pureFunc_ParseJSON_str (text := render (ofDoc (.obj ks vs))) (render_obj_isEmpty _), parseJSON_of_document ks vs h]

example : WF (.obj [[107], [113]] [.arr [.bool true, .null, .str [97, 98]], .obj [] []]) := by
  simp only [WF, WFs, Safe, SafeByte]
  decide

#print axioms toGo_ofDoc
#print axioms parseJSON_of_document
#print axioms parseJSON_func
end Mp.GoJson
