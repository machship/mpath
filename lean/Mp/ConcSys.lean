import Mp.CacheProofs
import Mp.PoolProofs
/-! C12: the shared state of the package as one transition system: any number of goroutines, each running any program of
    `ParseReadSeeker` / `CueValidate` / `Do` calls, interleaved by any schedule at the grain of the single accesses to the shared
    state (mutex Lock / Unlock, read and write of `mpathOpCache` and `cueValueCache`, `scannerPool.Get` / `Put` in
    ParseReadSeeker, in the ParseString nested in CueValidate, and in every parse a `Select` call makes while `Do` runs; the pool
    may hand out any idle scanner or a new one, and the collector may drop idle scanners at any time). Core-only. -/
namespace Mp.ConcSys
open Pool

/-- a pooled scanner: `id` stands for the pointer, `st` for the fields that survive between parses -/
structure PScn where
  id : Nat
  st : Scn

inductive Call (Input EvIn : Type)
  | parse (i : Input)                 -- ParseString / ParseReadSeeker
  | validate (q s cp : String)        -- CueValidate
  | eval (x : EvIn)                   -- Do on a shared operation: touches no shared state
  | evalSel (x : EvIn) (subs : List Input)  -- Do on an operation whose Select calls parse their sub-queries while it runs

inductive Ret (PRes R EvOut : Type)
  | parsed (r : PRes)
  | validated (r : Res R)
  | evaluated (y : EvOut)
deriving DecidableEq

/-- everything that is a function of its arguments -/
structure Params (Op Cue R Input PRes EvIn EvOut : Type) where
  parseWith : Scn → Input → PRes      -- the parse loop, reading the scanner configuration it is handed
  faultOf : Input → Bool              -- the reader fails
  qin : String → Input                -- strings.NewReader(query)
  asOp : PRes → Option Op             -- err != nil → none
  compile : String → Option Cue
  validate : Op → Cue → String → R
  evalF : EvIn → EvOut
  evalS : EvIn → List PRes → EvOut    -- the evaluation, given what the sub-queries of its Select calls parse to

variable {Op Cue R Input PRes EvIn EvOut : Type}

def Params.world (P : Params Op Cue R Input PRes EvIn EvOut) : World Op Cue R :=
  ⟨fun q => P.asOp (P.parseWith (reset fresh) (P.qin q)), P.compile, P.validate⟩

/-- what a call returns when it is run alone in a fresh process: the parse with a fresh scanner, `pureCall` without caches -/
def expected (P : Params Op Cue R Input PRes EvIn EvOut) : Call Input EvIn → Ret PRes R EvOut
  | .parse i => .parsed (P.parseWith (reset fresh) i)
  | .validate q s cp => .validated (pureCall P.world q s cp)
  | .eval x => .evaluated (P.evalF x)
  | .evalSel x subs => .evaluated (P.evalS x (subs.map (P.parseWith (reset fresh))))

/-- where a goroutine stands inside a call: one constructor per stretch between two accesses to the shared state -/
inductive PC (Op Cue R Input PRes EvIn : Type)
  | idle
  | pGot (i : Input) (sc : PScn)                       -- after scannerPool.Get()
  | vLocked (q s cp : String)                          -- after cueValidateMutex.Lock()
  | vMiss (q s cp : String)                            -- mpathOpCache[query] missed
  | vGot (q s cp : String) (sc : PScn)                 -- inside the nested ParseString, after Get
  | vParsed (q s cp : String) (r : PRes)               -- after its Put
  | vOp (q s cp : String) (op : Op)                    -- the operation is known
  | vWrite (q s cp : String) (op : Op) (v : Cue)       -- compiled, before cueValueCache[cueFile] = rootValue
  | vCue (q s cp : String) (op : Op) (v : Cue)         -- both known; the rest is local; then the deferred Unlock
  | vDone (q s cp : String) (r : Res R)                -- an error return; then the deferred Unlock
  | eSel (x : EvIn) (subs todo : List Input) (done : List PRes)          -- inside Do, between two Select parses
  | eGot (x : EvIn) (subs : List Input) (i : Input) (sc : PScn) (todo : List Input) (done : List PRes)  -- after Get

structure Shared (Op Cue : Type) where
  lock : Option Nat
  caches : Caches Op Cue
  pool : List PScn
  nextId : Nat

structure Thread (Op Cue R Input PRes EvIn EvOut : Type) where
  rem : List (Call Input EvIn)
  pc : PC Op Cue R Input PRes EvIn
  log : List (Ret PRes R EvOut)

def poolGet (sh : Shared Op Cue) (k : Nat) : PScn × Shared Op Cue :=
  match sh.pool[k]? with
  | some s => (s, { sh with pool := sh.pool.eraseIdx k })
  | none => (⟨sh.nextId, fresh⟩, { sh with nextId := sh.nextId + 1 })

def poolPut (sh : Shared Op Cue) (s : PScn) : Shared Op Cue := { sh with pool := s :: sh.pool }

/-- Reset, the parse loop, the deferred clearing: all on a scanner nobody else holds -/
def usedScanner (P : Params Op Cue R Input PRes EvIn EvOut) (sc : PScn) (i : Input) : PScn :=
  ⟨sc.id, release (afterParse (reset sc.st) (P.faultOf i))⟩

/-- one step of goroutine `t`; `k` is the pool's choice; `none` = blocked (in Lock) or finished -/
def stepT (P : Params Op Cue R Input PRes EvIn EvOut) (t k : Nat) (sh : Shared Op Cue)
    (th : Thread Op Cue R Input PRes EvIn EvOut) : Option (Shared Op Cue × Thread Op Cue R Input PRes EvIn EvOut) :=
  match th.pc with
  | .idle =>
    match th.rem with
    | [] => none
    | .eval x :: rest => some (sh, { rem := rest, pc := .idle, log := th.log ++ [.evaluated (P.evalF x)] })
    | .parse i :: rest => some ((poolGet sh k).2, { th with rem := rest, pc := .pGot i (poolGet sh k).1 })
    | .evalSel x subs :: rest => some (sh, { th with rem := rest, pc := .eSel x subs subs [] })
    | .validate q s cp :: rest =>
      if (q == "" || s == "") = true then
        some (sh, { rem := rest, pc := .idle, log := th.log ++ [.validated .missing] })
      else match sh.lock with
        | some _ => none
        | none => some ({ sh with lock := some t }, { th with rem := rest, pc := .vLocked q s cp })
  | .pGot i sc =>
    some (poolPut sh (usedScanner P sc i), { th with pc := .idle, log := th.log ++ [.parsed (P.parseWith (reset sc.st) i)] })
  | .vLocked q s cp =>
    match find? q sh.caches.ops with
    | some op => some (sh, { th with pc := .vOp q s cp op })
    | none => some (sh, { th with pc := .vMiss q s cp })
  | .vMiss q s cp => some ((poolGet sh k).2, { th with pc := .vGot q s cp (poolGet sh k).1 })
  | .vGot q s cp sc =>
    some (poolPut sh (usedScanner P sc (P.qin q)), { th with pc := .vParsed q s cp (P.parseWith (reset sc.st) (P.qin q)) })
  | .vParsed q s cp r =>
    match P.asOp r with
    | none => some (sh, { th with pc := .vDone q s cp .parseErr })
    | some op => some ({ sh with caches := { sh.caches with ops := (q, op) :: sh.caches.ops } }, { th with pc := .vOp q s cp op })
  | .vOp q s cp op =>
    match find? s sh.caches.cues with
    | some v => some (sh, { th with pc := .vCue q s cp op v })
    | none =>
      match P.compile s with
      | none => some (sh, { th with pc := .vDone q s cp .cueErr })
      | some v => some (sh, { th with pc := .vWrite q s cp op v })
  | .vWrite q s cp op v =>
    some ({ sh with caches := { sh.caches with cues := (s, v) :: sh.caches.cues } }, { th with pc := .vCue q s cp op v })
  | .vCue _ _ cp op v =>
    some ({ sh with lock := none }, { th with pc := .idle, log := th.log ++ [.validated (.done (P.validate op v cp))] })
  | .vDone _ _ _ r =>
    some ({ sh with lock := none }, { th with pc := .idle, log := th.log ++ [.validated r] })
  | .eSel x _ [] done => some (sh, { th with pc := .idle, log := th.log ++ [.evaluated (P.evalS x done)] })
  | .eSel x subs (i :: todo) done => some ((poolGet sh k).2, { th with pc := .eGot x subs i (poolGet sh k).1 todo done })
  | .eGot x subs i sc todo done =>
    some (poolPut sh (usedScanner P sc i), { th with pc := .eSel x subs todo (done ++ [P.parseWith (reset sc.st) i]) })

structure Sys (Op Cue R Input PRes EvIn EvOut : Type) where
  sh : Shared Op Cue
  th : Nat → Thread Op Cue R Input PRes EvIn EvOut

inductive Ev | run (t k : Nat) | gc (k : Nat)

def stepSys (P : Params Op Cue R Input PRes EvIn EvOut) (σ : Sys Op Cue R Input PRes EvIn EvOut) :
    Ev → Sys Op Cue R Input PRes EvIn EvOut
  | .run t k =>
    match stepT P t k σ.sh (σ.th t) with
    | none => σ
    | some r => ⟨r.1, fun u => if u = t then r.2 else σ.th u⟩
  | .gc k => { σ with sh := { σ.sh with pool := σ.sh.pool.eraseIdx k } }

def runSys (P : Params Op Cue R Input PRes EvIn EvOut) (σ : Sys Op Cue R Input PRes EvIn EvOut) (evs : List Ev) :
    Sys Op Cue R Input PRes EvIn EvOut := evs.foldl (stepSys P) σ

/-- a fresh process; goroutine `t` is about to run `progs t` -/
def init (progs : Nat → List (Call Input EvIn)) : Sys Op Cue R Input PRes EvIn EvOut :=
  ⟨⟨none, Caches.empty, [], 0⟩, fun t => ⟨progs t, .idle, []⟩⟩

/-- `nm q s` ("not missing"): neither string is empty, so CueValidate got past the check that answers `.missing` -/
def nm (q s : String) : Prop := (q == "" || s == "") = false

/-- what the program counter knows -/
def pcOK (P : Params Op Cue R Input PRes EvIn EvOut) : PC Op Cue R Input PRes EvIn → Prop
  | .idle => True
  | .pGot _ sc => PoolInv sc.st
  | .vLocked q s _ => nm q s
  | .vMiss q s _ => nm q s
  | .vGot q s _ sc => nm q s ∧ PoolInv sc.st
  | .vParsed q s _ r => nm q s ∧ r = P.parseWith (reset fresh) (P.qin q)
  | .vOp q s _ op => nm q s ∧ P.world.parse q = some op
  | .vWrite q s _ op v => nm q s ∧ P.world.parse q = some op ∧ P.compile s = some v
  | .vCue q s _ op v => nm q s ∧ P.world.parse q = some op ∧ P.compile s = some v
  | .vDone q s cp r => nm q s ∧ r = pureCall P.world q s cp
  | .eSel _ subs todo done => done ++ todo.map (P.parseWith (reset fresh)) = subs.map (P.parseWith (reset fresh))
  | .eGot _ subs i sc todo done =>
    PoolInv sc.st ∧ done ++ (i :: todo).map (P.parseWith (reset fresh)) = subs.map (P.parseWith (reset fresh))

def pcCall : PC Op Cue R Input PRes EvIn → Option (Call Input EvIn)
  | .idle => none
  | .pGot i _ => some (.parse i)
  | .vLocked q s cp | .vMiss q s cp | .vGot q s cp _ | .vParsed q s cp _ | .vOp q s cp _ | .vWrite q s cp _ _
  | .vCue q s cp _ _ | .vDone q s cp _ => some (.validate q s cp)
  | .eSel x subs _ _ | .eGot x subs _ _ _ _ => some (.evalSel x subs)

def ThreadOK (P : Params Op Cue R Input PRes EvIn EvOut) (E : List (Ret PRes R EvOut))
    (th : Thread Op Cue R Input PRes EvIn EvOut) : Prop :=
  pcOK P th.pc ∧ th.log ++ ((pcCall th.pc).map (expected P)).toList ++ th.rem.map (expected P) = E

def SharedOK (P : Params Op Cue R Input PRes EvIn EvOut) (sh : Shared Op Cue) : Prop :=
  Inv P.world sh.caches ∧ ∀ s ∈ sh.pool, PoolInv s.st

theorem poolGet_ok (P : Params Op Cue R Input PRes EvIn EvOut) (sh : Shared Op Cue) (k : Nat) (h : SharedOK P sh) :
    PoolInv (poolGet sh k).1.st ∧ SharedOK P (poolGet sh k).2 := by
  unfold poolGet
  cases hk : sh.pool[k]? with
  | none => exact ⟨fresh_inv, h.1, h.2⟩
  | some s =>
    exact ⟨h.2 s (List.mem_of_getElem? hk), h.1, fun s' hs' => h.2 s' (List.mem_of_mem_eraseIdx hs')⟩

theorem usedScanner_inv (P : Params Op Cue R Input PRes EvIn EvOut) (sc : PScn) (i : Input) (h : PoolInv sc.st) :
    PoolInv (usedScanner P sc i).st := cycle_inv sc.st h _

theorem poolPut_ok (P : Params Op Cue R Input PRes EvIn EvOut) (sh : Shared Op Cue) (s : PScn) (h : SharedOK P sh)
    (hs : PoolInv s.st) : SharedOK P (poolPut sh s) :=
  ⟨h.1, List.forall_mem_cons.mpr ⟨hs, h.2⟩⟩

/-- `Q` of what a step leads to, if the goroutine can take one -/
def After {α : Type} (Q : α → Prop) : Option α → Prop
  | none => True
  | some r => Q r

attribute [local simp] pcCall expected in
theorem stepT_ok (P : Params Op Cue R Input PRes EvIn EvOut) {E : List (Ret PRes R EvOut)} (t k : Nat)
    {sh : Shared Op Cue} {th : Thread Op Cue R Input PRes EvIn EvOut} (hs : SharedOK P sh) (ht : ThreadOK P E th) :
    After (fun r => SharedOK P r.1 ∧ ThreadOK P E r.2) (stepT P t k sh th) := by
  obtain ⟨rem, pc, log⟩ := th
  obtain ⟨hpc, hlog⟩ := ht
  have hget := poolGet_ok P sh k hs
  -- `hlog`: the log, then what the call in progress will return (`pcCall`), then what the rest of the program will, make `E`.
  -- Starting a call moves the head of `rem` to the middle, ending one moves the middle onto the log: `simpa using hlog` computes
  -- `pcCall` and `expected` at the new `pc` and re-associates the appends
  cases pc with
  | idle =>
    cases rem with
    | nil => trivial
    | cons c rest =>
      cases c with
      | eval x => exact ⟨hs, trivial, by simpa using hlog⟩
      | parse i => exact ⟨hget.2, hget.1, by simpa using hlog⟩
      | evalSel x subs => exact ⟨hs, rfl, by simpa using hlog⟩
      | validate q s cp =>
        simp only [stepT]
        split
        · next hm => exact ⟨hs, trivial, by simpa [pureCall_missing _ q s cp hm] using hlog⟩
        · next hm =>
          split
          · trivial
          · exact ⟨hs, Bool.eq_false_iff.mpr hm, by simpa using hlog⟩
  | pGot i sc =>
    exact ⟨poolPut_ok P sh _ hs (usedScanner_inv P sc i hpc), trivial, by simpa [reset_canonical sc.st hpc] using hlog⟩
  | vLocked q s cp =>
    -- inside a call the log, the call in progress (`pcCall`) and the rest of the program stay: `hlog` passes as it is
    simp only [stepT]
    split
    · next op hf => exact ⟨hs, ⟨hpc, hs.1.1 q op hf⟩, hlog⟩
    · exact ⟨hs, hpc, hlog⟩
  | vMiss q s cp => exact ⟨hget.2, ⟨hpc, hget.1⟩, hlog⟩
  | vGot q s cp sc =>
    exact ⟨poolPut_ok P sh _ hs (usedScanner_inv P sc _ hpc.2), ⟨hpc.1, by rw [reset_canonical sc.st hpc.2]⟩, hlog⟩
  | vParsed q s cp r =>
    obtain ⟨hnm, rfl⟩ := hpc
    simp only [stepT]
    split
    -- `ha` speaks of `P.asOp (P.parseWith (reset fresh) (P.qin q))`, which is what `P.world.parse q` unfolds to
    · next ha => exact ⟨hs, ⟨hnm, (pureCall_parseErr _ q s cp hnm ha).symm⟩, hlog⟩
    · next op ha => exact ⟨⟨⟨good_cons hs.1.1 ha, hs.1.2⟩, hs.2⟩, ⟨hnm, ha⟩, hlog⟩
  | vOp q s cp op =>
    obtain ⟨hnm, hp⟩ := hpc
    simp only [stepT]
    split
    · next v hf => exact ⟨hs, ⟨hnm, hp, hs.1.2 s v hf⟩, hlog⟩
    · split
      · next hc => exact ⟨hs, ⟨hnm, (pureCall_cueErr _ q s cp op hnm hp hc).symm⟩, hlog⟩
      · next v hc => exact ⟨hs, ⟨hnm, hp, hc⟩, hlog⟩
  | vWrite q s cp op v => exact ⟨⟨⟨hs.1.1, good_cons hs.1.2 hpc.2.2⟩, hs.2⟩, hpc, hlog⟩
  | vCue q s cp op v =>
    have e : pureCall P.world q s cp = .done (P.validate op v cp) := pureCall_done _ q s cp op v hpc.1 hpc.2.1 hpc.2.2
    exact ⟨hs, trivial, by simpa [e] using hlog⟩
  | vDone q s cp r => exact ⟨hs, trivial, by simpa [hpc.2] using hlog⟩
  | eSel x subs todo done =>
    cases todo with
    | nil =>
      have hd : done = subs.map (P.parseWith (reset fresh)) := by simpa [pcOK] using hpc
      exact ⟨hs, trivial, by simpa [hd] using hlog⟩
    | cons i todo => exact ⟨hget.2, ⟨hget.1, hpc⟩, hlog⟩
  | eGot x subs i sc todo done =>
    exact ⟨poolPut_ok P sh _ hs (usedScanner_inv P sc i hpc.1), by simpa [pcOK, reset_canonical sc.st hpc.1] using hpc.2,
      hlog⟩

def crit : PC Op Cue R Input PRes EvIn → Bool
  | .idle | .pGot _ _ | .eSel _ _ _ _ | .eGot _ _ _ _ _ _ => false
  | _ => true

def held : PC Op Cue R Input PRes EvIn → Option Nat
  | .pGot _ sc => some sc.id
  | .vGot _ _ _ sc => some sc.id
  | .eGot _ _ _ sc _ _ => some sc.id
  | _ => none

/-- what a step does to the mutex, seen through `crit`: nothing, Lock on entering the critical section, Unlock on leaving -/
inductive LockFoot (t : Nat) (l l' : Option Nat) (c c' : Bool) : Prop
  | same (hl : l' = l) (hc : c' = c)
  | acquire (hl : l = none) (hl' : l' = some t) (hc' : c' = true)
  | release (hc : c = true) (hl' : l' = none) (hc' : c' = false)

/-- what a step does to the pool, seen through `held`: nothing, a Get, or a Put of the scanner it held -/
inductive PoolFoot (k : Nat) (sh sh' : Shared Op Cue) (h h' : Option Nat) : Prop
  | same (hp : sh'.pool = sh.pool) (hn : sh'.nextId = sh.nextId) (hh : h' = h)
  | get (hsh : sh' = (poolGet sh k).2) (hh' : h' = some (poolGet sh k).1.id)
  | put (i : Nat) (st : Scn) (hh : h = some i) (hh' : h' = none) (hsh : sh' = poolPut sh ⟨i, st⟩)

theorem poolGet_lock (sh : Shared Op Cue) (k : Nat) : (poolGet sh k).2.lock = sh.lock := by
  unfold poolGet
  split <;> rfl

theorem stepT_foot (P : Params Op Cue R Input PRes EvIn EvOut) (t k : Nat) (sh : Shared Op Cue)
    (th : Thread Op Cue R Input PRes EvIn EvOut) :
    After (fun r => LockFoot t sh.lock r.1.lock (crit th.pc) (crit r.2.pc) ∧ PoolFoot k sh r.1 (held th.pc) (held r.2.pc))
      (stepT P t k sh th) := by
  obtain ⟨rem, pc, log⟩ := th
  cases pc with
  | idle =>
    cases rem with
    | nil => trivial
    | cons c rest =>
      cases c with
      | eval | evalSel => exact ⟨.same rfl rfl, .same rfl rfl rfl⟩
      | parse i => exact ⟨.same (poolGet_lock sh k) rfl, .get rfl rfl⟩
      | validate q s cp =>
        simp only [stepT]
        split
        · exact ⟨.same rfl rfl, .same rfl rfl rfl⟩
        · split
          · trivial
          · next hl => exact ⟨.acquire hl rfl rfl, .same rfl rfl rfl⟩
  | vMiss q s cp => exact ⟨.same (poolGet_lock sh k) rfl, .get rfl rfl⟩
  | pGot | vGot | eGot => exact ⟨.same rfl rfl, .put _ _ rfl rfl rfl⟩
  | vCue | vDone => exact ⟨.release rfl rfl rfl, .same rfl rfl rfl⟩
  | eSel x subs todo done =>
    cases todo with
    | nil => exact ⟨.same rfl rfl, .same rfl rfl rfl⟩
    | cons i todo => exact ⟨.same (poolGet_lock sh k) rfl, .get rfl rfl⟩
  | vLocked | vParsed | vOp | vWrite =>
    -- the cache reads and writes and the local work between them, whichever way they branch
    simp only [stepT]
    repeat' split
    all_goals exact ⟨.same rfl rfl, .same rfl rfl rfl⟩

def Coupled (σ : Sys Op Cue R Input PRes EvIn EvOut) : Prop := ∀ t, crit (σ.th t).pc = true → σ.sh.lock = some t

theorem Coupled.unique {σ : Sys Op Cue R Input PRes EvIn EvOut} (h : Coupled σ) {t u : Nat}
    (ht : crit (σ.th t).pc = true) (hu : crit (σ.th u).pc = true) : t = u :=
  Option.some.inj ((h t ht).symm.trans (h u hu))

theorem Coupled.step {σ : Sys Op Cue R Input PRes EvIn EvOut} (h : Coupled σ) {t : Nat} {sh' : Shared Op Cue}
    {th' : Thread Op Cue R Input PRes EvIn EvOut}
    (hf : LockFoot t σ.sh.lock sh'.lock (crit (σ.th t).pc) (crit th'.pc)) :
    Coupled ⟨sh', fun u => if u = t then th' else σ.th u⟩ := by
  intro u hu
  simp only at hu ⊢
  split at hu
  · next hut =>
    subst hut
    cases hf with
    | same hl hc => rw [hl]; exact h u (hc ▸ hu)
    | acquire _ hl' _ => exact hl'
    | release _ _ hc' => rw [hc'] at hu; cases hu
  · next hut =>
    have hlu := h u hu
    cases hf with
    | same hl _ => rw [hl]; exact hlu
    | acquire hl _ _ => rw [hl] at hlu; cases hlu
    | release hc _ _ => exact absurd (h.unique hu hc) hut

theorem not_mem_eraseIdx_of_nodup {α β} (f : α → β) (l : List α) (k : Nat) (a : α) (hn : (l.map f).Nodup)
    (hk : l[k]? = some a) : f a ∉ (l.eraseIdx k).map f := by
  induction l generalizing k with
  | nil => cases hk
  | cons x t ih =>
    obtain ⟨hx, ht⟩ := List.nodup_cons.mp hn
    cases k with
    | zero => cases hk; exact hx
    | succ k =>
      rw [List.eraseIdx_cons_succ, List.map_cons, List.mem_cons, not_or]
      exact ⟨fun e => hx (e ▸ List.mem_map_of_mem (List.mem_of_getElem? hk)), ih k ht hk⟩

structure IdsOK (σ : Sys Op Cue R Input PRes EvIn EvOut) : Prop where
  nodup : (σ.sh.pool.map PScn.id).Nodup
  poolLt : ∀ i ∈ σ.sh.pool.map PScn.id, i < σ.sh.nextId
  heldLt : ∀ t i, held (σ.th t).pc = some i → i < σ.sh.nextId
  heldOut : ∀ t i, held (σ.th t).pc = some i → i ∉ σ.sh.pool.map PScn.id
  heldOne : ∀ t u i, held (σ.th t).pc = some i → held (σ.th u).pc = some i → t = u

theorem IdsOK.mono {σ σ' : Sys Op Cue R Input PRes EvIn EvOut} (h : IdsOK σ)
    (hsub : (σ'.sh.pool.map PScn.id).Sublist (σ.sh.pool.map PScn.id)) (hn : σ.sh.nextId ≤ σ'.sh.nextId)
    (hheld : ∀ u i, held (σ'.th u).pc = some i → held (σ.th u).pc = some i) : IdsOK σ' :=
  ⟨h.nodup.sublist hsub, fun i hi => Nat.lt_of_lt_of_le (h.poolLt i (hsub.subset hi)) hn,
    fun u i hu => Nat.lt_of_lt_of_le (h.heldLt u i (hheld u i hu)) hn,
    fun u i hu hi => h.heldOut u i (hheld u i hu) (hsub.subset hi),
    fun u w i hu hw => h.heldOne u w i (hheld u i hu) (hheld w i hw)⟩

theorem IdsOK.take {σ : Sys Op Cue R Input PRes EvIn EvOut} (h : IdsOK σ) (t j : Nat)
    (th' : Thread Op Cue R Input PRes EvIn EvOut) (hlt : j < σ.sh.nextId) (hout : j ∉ σ.sh.pool.map PScn.id)
    (hnew : ∀ u, held (σ.th u).pc ≠ some j) (hj : held th'.pc = some j) :
    IdsOK ⟨σ.sh, fun u => if u = t then th' else σ.th u⟩ := by
  have key : ∀ u i, held (if u = t then th' else σ.th u).pc = some i → (u = t ∧ i = j) ∨ held (σ.th u).pc = some i := by
    intro u i hu
    split at hu
    · next hut => exact .inl ⟨hut, Option.some.inj (hu.symm.trans hj)⟩
    · exact .inr hu
  refine ⟨h.nodup, h.poolLt, ?_, ?_, ?_⟩
  · intro u i hu
    rcases key u i hu with ⟨-, rfl⟩ | hu
    · exact hlt
    · exact h.heldLt u i hu
  · intro u i hu
    rcases key u i hu with ⟨-, rfl⟩ | hu
    · exact hout
    · exact h.heldOut u i hu
  · intro u w i hu hw
    rcases key u i hu with ⟨hut, hij⟩ | hu' <;> rcases key w i hw with ⟨hwt, hij⟩ | hw'
    · rw [hut, hwt]
    · exact absurd (hij ▸ hw') (hnew w)
    · exact absurd (hij ▸ hu') (hnew u)
    · exact h.heldOne u w i hu' hw'

theorem IdsOK.give {σ : Sys Op Cue R Input PRes EvIn EvOut} (h : IdsOK σ) (t i : Nat) (st : Scn)
    (th' : Thread Op Cue R Input PRes EvIn EvOut) (hi : held (σ.th t).pc = some i) (hnone : held th'.pc = none) :
    IdsOK ⟨poolPut σ.sh ⟨i, st⟩, fun u => if u = t then th' else σ.th u⟩ := by
  have key : ∀ u j, held (if u = t then th' else σ.th u).pc = some j → u ≠ t ∧ held (σ.th u).pc = some j := by
    intro u j hu
    split at hu
    · rw [hnone] at hu; cases hu
    · next hut => exact ⟨hut, hu⟩
  refine ⟨List.nodup_cons.mpr ⟨h.heldOut t i hi, h.nodup⟩, ?_, fun u j hu => h.heldLt u j (key u j hu).2, ?_,
    fun u w j hu hw => h.heldOne u w j (key u j hu).2 (key w j hw).2⟩
  · intro j hj
    rcases List.mem_cons.mp hj with rfl | hj
    · exact h.heldLt t _ hi
    · exact h.poolLt j hj
  · intro u j hu hj
    obtain ⟨hut, hu'⟩ := key u j hu
    rcases List.mem_cons.mp hj with rfl | hj
    · exact hut (h.heldOne u t _ hu' hi)
    · exact h.heldOut u j hu' hj

theorem poolGet_ids {σ : Sys Op Cue R Input PRes EvIn EvOut} (h : IdsOK σ) (k : Nat) :
    let σ' : Sys Op Cue R Input PRes EvIn EvOut := ⟨(poolGet σ.sh k).2, σ.th⟩
    let j := (poolGet σ.sh k).1.id
    IdsOK σ' ∧ j < σ'.sh.nextId ∧ j ∉ σ'.sh.pool.map PScn.id ∧ ∀ u, held (σ.th u).pc ≠ some j := by
  unfold poolGet
  cases hk : σ.sh.pool[k]? with
  | none =>
    exact ⟨h.mono (.refl _) (Nat.le_succ _) fun _ _ hu => hu, Nat.lt_succ_self _, fun hm => Nat.lt_irrefl _ (h.poolLt _ hm),
      fun u hu => Nat.lt_irrefl _ (h.heldLt u _ hu)⟩
  | some s =>
    have hs : s.id ∈ σ.sh.pool.map PScn.id := List.mem_map_of_mem (List.mem_of_getElem? hk)
    exact ⟨h.mono ((List.eraseIdx_sublist _ _).map _) (Nat.le_refl _) fun _ _ hu => hu, h.poolLt _ hs,
      not_mem_eraseIdx_of_nodup PScn.id _ k s h.nodup hk, fun u hu => h.heldOut u _ hu hs⟩

theorem IdsOK.step {σ : Sys Op Cue R Input PRes EvIn EvOut} (h : IdsOK σ) {t k : Nat} {sh' : Shared Op Cue}
    {th' : Thread Op Cue R Input PRes EvIn EvOut} (hf : PoolFoot k σ.sh sh' (held (σ.th t).pc) (held th'.pc)) :
    IdsOK ⟨sh', fun u => if u = t then th' else σ.th u⟩ := by
  cases hf with
  | same hp hn hh =>
    refine h.mono (by rw [hp]; exact .refl _) (Nat.le_of_eq hn.symm) ?_
    intro u i hu
    simp only at hu
    split at hu
    · next hut => rwa [hh, ← hut] at hu
    · exact hu
  | get hsh hh' =>
    subst hsh
    obtain ⟨h', hlt, hout, hnew⟩ := poolGet_ids h k
    exact h'.take t _ th' hlt hout hnew hh'
  | put i st hh hh' hsh =>
    subst hsh
    exact h.give t i st th' hh hh'

/-- the invariant of the system, not reachability itself: what `reach` shows of every state a run from `init progs` gets to -/
structure Reach (P : Params Op Cue R Input PRes EvIn EvOut) (progs : Nat → List (Call Input EvIn))
    (σ : Sys Op Cue R Input PRes EvIn EvOut) : Prop where
  shared : SharedOK P σ.sh
  threads : ∀ t, ThreadOK P ((progs t).map (expected P)) (σ.th t)
  coupled : Coupled σ
  ids : IdsOK σ

theorem reach_init (P : Params Op Cue R Input PRes EvIn EvOut) (progs : Nat → List (Call Input EvIn)) :
    Reach P progs (init progs) where
  shared := ⟨inv_empty _, List.forall_mem_nil _⟩
  threads _ := ⟨trivial, rfl⟩
  coupled _ := nofun
  ids := ⟨.nil, nofun, nofun, nofun, nofun⟩

theorem reach_step (P : Params Op Cue R Input PRes EvIn EvOut) (progs : Nat → List (Call Input EvIn))
    (σ : Sys Op Cue R Input PRes EvIn EvOut) (e : Ev) (h : Reach P progs σ) : Reach P progs (stepSys P σ e) := by
  cases e with
  | gc k =>
    have hsub := List.eraseIdx_sublist σ.sh.pool k
    exact ⟨⟨h.shared.1, fun s hs => h.shared.2 s (hsub.subset hs)⟩, h.threads, h.coupled,
      h.ids.mono (hsub.map _) (Nat.le_refl _) fun _ _ hu => hu⟩
  | run t k =>
    have hok := stepT_ok P t k h.shared (h.threads t)
    have hfoot := stepT_foot P t k σ.sh (σ.th t)
    simp only [stepSys]
    generalize stepT P t k σ.sh (σ.th t) = o at hok hfoot ⊢
    cases o with
    | none => exact h
    | some r =>
      refine ⟨hok.1, fun u => ?_, h.coupled.step hfoot.1, h.ids.step hfoot.2⟩
      simp only
      split
      · next hut => rw [hut]; exact hok.2
      · exact h.threads u

theorem reach_run (P : Params Op Cue R Input PRes EvIn EvOut) (progs : Nat → List (Call Input EvIn)) (evs : List Ev)
    (σ : Sys Op Cue R Input PRes EvIn EvOut) (h : Reach P progs σ) : Reach P progs (runSys P σ evs) :=
  List.foldlRecOn evs (stepSys P) h fun σ h e _ => reach_step P progs σ e h

theorem reach (P : Params Op Cue R Input PRes EvIn EvOut) (progs : Nat → List (Call Input EvIn)) (evs : List Ev) :
    Reach P progs (runSys P (init progs) evs) := reach_run P progs evs _ (reach_init P progs)

/-- C12: under every schedule, what a goroutine has been answered so far is, call by call, what its calls return when each is
    run alone in a fresh process; a goroutine that has finished has been answered exactly that for all its calls. -/
theorem calls_return_what_they_return_alone (P : Params Op Cue R Input PRes EvIn EvOut)
    (progs : Nat → List (Call Input EvIn)) (evs : List Ev) (t : Nat) :
    let σ := runSys P (init progs) evs
    (∃ rest, (σ.th t).log ++ rest = (progs t).map (expected P)) ∧
    ((σ.th t).pc = .idle → (σ.th t).rem = [] → (σ.th t).log = (progs t).map (expected P)) := by
  intro σ
  have h := (reach P progs evs).threads t
  refine ⟨⟨_, by rw [← List.append_assoc]; exact h.2⟩, ?_⟩
  intro hpc hrem
  have := h.2
  rw [hpc, hrem] at this
  simpa [pcCall] using this

/-- C12: two goroutines are never inside CueValidate's critical section together, and whoever is inside holds the mutex, so
    every cache access is made by the holder: the discipline `Lockset.lockset_orders` assumes of a trace. -/
theorem mutual_exclusion (P : Params Op Cue R Input PRes EvIn EvOut) (progs : Nat → List (Call Input EvIn))
    (evs : List Ev) (t u : Nat) :
    let σ := runSys P (init progs) evs
    (crit (σ.th t).pc = true → σ.sh.lock = some t) ∧
    (crit (σ.th t).pc = true → crit (σ.th u).pc = true → t = u) := by
  intro σ
  exact ⟨(reach P progs evs).coupled t, (reach P progs evs).coupled.unique⟩

/-- C12: a scanner is never held by two goroutines, and a held scanner is not idle in the pool. -/
theorem scanners_exclusive (P : Params Op Cue R Input PRes EvIn EvOut) (progs : Nat → List (Call Input EvIn))
    (evs : List Ev) (t u i : Nat) :
    let σ := runSys P (init progs) evs
    (held (σ.th t).pc = some i → held (σ.th u).pc = some i → t = u) ∧
    (held (σ.th t).pc = some i → i ∉ σ.sh.pool.map PScn.id) ∧ (σ.sh.pool.map PScn.id).Nodup := by
  intro σ
  have h := (reach P progs evs).ids
  exact ⟨h.heldOne t u i, h.heldOut t i, h.nodup⟩

/-- C16 ∘ C12: the caches stay right under every schedule -/
theorem caches_good (P : Params Op Cue R Input PRes EvIn EvOut) (progs : Nat → List (Call Input EvIn)) (evs : List Ev) :
    Inv P.world (runSys P (init progs) evs).sh.caches :=
  (reach P progs evs).shared.1

/-! non-vacuity: two goroutines contend for CueValidate, one blocks in Lock, the pool hands a scanner on, both logs complete -/
def demoP : Params Nat String (Nat × String × String) String (Option Nat) Nat Nat :=
  { parseWith := fun sc i => if sc.modeOk && i != "bad" then some i.length else none
    faultOf := fun _ => false, qin := id, asOp := id
    compile := fun s => if s == "nope" then none else some s
    validate := fun n s cp => (n, s, cp), evalF := fun x => x + 1
    evalS := fun x rs => x + (rs.filter Option.isSome).length }
def demoProgs : Nat → List (Call String Nat)
  | 0 => [.validate "$.a" "x: int" "", .parse "$.b.c", .evalSel 1 ["$.x", "bad", "$.yy"]]
  | 1 => [.validate "$.a" "x: int" "s1", .validate "bad" "x: int" "", .eval 41, .validate "$.a" "nope" ""]
  | _ => []
def demoSched : List Ev :=
  [.run 0 0, .run 1 0, .run 0 0, .run 1 0, .run 0 0, .run 0 0, .run 1 0, .run 0 0, .run 0 0, .run 0 0, .run 0 0, .run 0 0,
   .run 0 0, .gc 5] ++ List.replicate 30 (.run 1 0) ++ List.replicate 9 (.run 0 0)
set_option maxRecDepth 100000 in
example :
    let σ := runSys demoP (init demoProgs) demoSched
    (σ.th 0).log = [.validated (.done (3, "x: int", "")), .parsed (some 5), .evaluated 3] ∧
    (σ.th 1).log = [.validated (.done (3, "x: int", "s1")), .validated .parseErr, .evaluated 42, .validated .cueErr] ∧
    σ.sh.pool.map PScn.id = [0] ∧ σ.sh.lock = none := by decide +kernel

#print axioms calls_return_what_they_return_alone
#print axioms mutual_exclusion
#print axioms scanners_exclusive
#print axioms caches_good
end Mp.ConcSys
