/-! Bytewise `<` on Go strings (lexicographic on the byte lists) is a strict total order — needed by C11 (least key, the member
    order of AsJSON) and C20 (sorted output). Stated for any element type with a strict total order. Core-only. -/
namespace OrdP

variable {α : Type} [DecidableEq α] (lt : α → α → Bool)

def lexLt : List α → List α → Bool
  | [], [] => false
  | [], _ :: _ => true
  | _ :: _, [] => false
  | a :: as, b :: bs => if lt a b then true else if lt b a then false else lexLt as bs

/-- `PermP.Ord` (`Mp/PermProofs.lean`) is this structure again -/
structure Ord : Prop where
  irrefl : ∀ a, lt a a = false
  trans : ∀ a b c, lt a b = true → lt b c = true → lt a c = true
  total : ∀ a b, a ≠ b → lt a b = true ∨ lt b a = true

theorem asymm (ho : Ord lt) (a b : α) (h : lt a b = true) : lt b a = false := by
  cases hb : lt b a with
  | false => rfl
  | true => have := ho.trans a b a h hb; rw [ho.irrefl] at this; cases this

theorem eq_of_not_lt (ho : Ord lt) (a b : α) (h1 : lt a b = false) (h2 : lt b a = false) : a = b :=
  Decidable.byContradiction fun h => by
    rcases ho.total a b h with h3 | h3
    · rw [h1] at h3; cases h3
    · rw [h2] at h3; cases h3

theorem lexLt_cons_cons (ho : Ord lt) (a b : α) (as bs : List α) :
    lexLt lt (a :: as) (b :: bs) = true ↔ lt a b = true ∨ a = b ∧ lexLt lt as bs = true := by
  rw [lexLt]
  cases hab : lt a b with
  | true => simp
  | false =>
    cases hba : lt b a with
    | true =>
      have : a ≠ b := fun e => by rw [e, ho.irrefl] at hba; cases hba
      simp [this]
    | false => simp [eq_of_not_lt lt ho a b hab hba]

theorem lexLt_iff_lex (ho : Ord lt) : ∀ l m : List α, lexLt lt l m = true ↔ List.Lex (fun a b => lt a b = true) l m
  | [], [] => by simp [lexLt]
  | [], _ :: _ => by simp [lexLt]
  | _ :: _, [] => by simp [lexLt]
  | a :: as, b :: bs => by rw [lexLt_cons_cons lt ho, List.cons_lex_cons_iff, lexLt_iff_lex ho as bs]

theorem Ord.lex {lt : α → α → Bool} (ho : Ord lt) : Ord (lexLt lt) where
  irrefl l := by
    induction l with
    | nil => rfl
    | cons a as ih => simp [lexLt, ho.irrefl, ih]
  trans l m n h1 h2 := (lexLt_iff_lex lt ho l n).mpr
    (List.lex_trans (ho.trans _ _ _) ((lexLt_iff_lex lt ho l m).mp h1) ((lexLt_iff_lex lt ho m n).mp h2))
  total l := by
    induction l with
    | nil =>
      intro m h
      cases m with
      | nil => exact absurd rfl h
      | cons b bs => exact Or.inl rfl
    | cons a as ih =>
      intro m h
      cases m with
      | nil => exact Or.inr rfl
      | cons b bs =>
        rw [lexLt_cons_cons lt ho, lexLt_cons_cons lt ho]
        by_cases hab : a = b
        · subst hab
          exact (ih bs (fun e => h (by rw [e]))).imp (fun h => Or.inr ⟨rfl, h⟩) (fun h => Or.inr ⟨rfl, h⟩)
        · exact (ho.total a b hab).imp Or.inl Or.inl

theorem lex_ord (ho : Ord lt) : (∀ l, lexLt lt l l = false) ∧
    (∀ l m n, lexLt lt l m = true → lexLt lt m n = true → lexLt lt l n = true) ∧
    (∀ l m, l ≠ m → lexLt lt l m = true ∨ lexLt lt m l = true) :=
  ⟨ho.lex.irrefl, ho.lex.trans, ho.lex.total⟩

omit [DecidableEq α] in
theorem Ord.nodup {lt : α → α → Bool} (ho : Ord lt) {l : List α} (h : l.Pairwise (fun a b => lt a b = true)) : l.Nodup :=
  h.imp fun hab heq => by rw [heq, ho.irrefl] at hab; cases hab

theorem byte_ord : Ord (fun (a b : UInt8) => decide (a < b)) where
  irrefl a := by simp
  trans a b c h1 h2 := by
    simp only [decide_eq_true_eq] at h1 h2 ⊢
    exact UInt8.lt_trans h1 h2
  total a b h := by
    simp only [decide_eq_true_eq]
    exact UInt8.lt_or_lt_of_ne h

#print axioms lex_ord
#print axioms byte_ord
end OrdP
