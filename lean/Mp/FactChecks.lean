import Mp.Generated.Facts
import Mp.Generated.FuncTable
import Mp.Parse
import Mp.ReturnKinds
import Mp.EscProofs
/-! Tie (a): the facts regenerated from /repo's source on every run (`Mp.Generated.*`) are what the hand-written model and the
    theorems assume. A source change that falsifies a fact fails the build at a line that names the fact. -/
namespace Mp.FactChecks
open Mp.Generated

/-! ### C05 / C17: `AnyOf` is "equals one of the arguments" only because numbers are listed before strings before bools.
    The model's `prmAll` (`Mp/Eval.lean`) appends the three lists in this order; nothing but reading ties it to this fact -/
theorem params_order : paramsOrder = ["Numbers", "Strings", "Bools"] := rfl

/-! ### C06 / C10: every numeric kind is converted, and the conversion switch covers them all -/
theorem number_kinds : numberKinds = ["Int", "Int8", "Int16", "Int32", "Int64", "Uint", "Uint8", "Uint16", "Uint32", "Uint64", "Float32", "Float64"] := rfl
theorem convert_covers_numbers : ∀ k ∈ numberKinds, k ∈ convertKinds := by decide +kernel
theorem convert_follows_indirection : "Pointer" ∈ convertKinds ∧ "Interface" ∈ convertKinds := by decide

/-! ### C19: the kinds `isNil` / `isEmptyValue` look at -/
theorem isNil_kinds : isNilKinds = ["Ptr", "Interface", "Slice", "Map", "Chan", "Func", "Invalid"] := rfl
theorem isEmptyValue_kinds : ∀ k ∈ ["Array", "Map", "Slice", "String", "Bool", "Interface", "Pointer"], k ∈ isEmptyValueKinds := by decide +kernel

/-! ### C08: what `Reset` re-installs after `Init`, what the deferred clean-up clears, empty input is rejected -/
theorem reset_restores_pool_mode : resetModeFlags = poolNewModeFlags := rfl
theorem reset_installs_handler : "s.sx.Error" ∈ resetAssignsAfterInit ∧ "s.sx.Mode" ∈ resetAssignsAfterInit := by decide
/-- the pool protocol `Mp.ConcSys` models -/
theorem pool_protocol : poolGetFirst = true ∧ poolPutLastInDefer = true ∧
    poolCallSites = ["ParseReadSeeker:Get", "ParseReadSeeker:Put"] := ⟨rfl, rfl, rfl⟩
theorem deferred_clean_up : "s.err" ∈ deferredClears ∧ "s.src" ∈ deferredClears := by decide
theorem parse_rejects_empty : parseRejectsEmpty = true := rfl
-- `invalidRunes` is the model's `Mp.invalidRunes` (`Mp/Lex.lean`): the enclosing namespace goes before the opened `Generated`
theorem invalid_runes : invalidRunes = [39, 34, 40, 41, 91, 93, 123, 125, 64, 36, 38, 46, 44, 61, 62, 60, 124, 33, 59, 47, 42] := by decide +kernel

/-! ### C09: the two replacement maps of escape / unescape are the table the round-trip theorems are instantiated with -/
def rulesOfUnescape : List (Nat × Nat) :=
  Mp.Generated.unescapeRules.filterMap fun (r : List Nat × List Nat) => match r with | ([92, c], [o]) => some (c, o) | _ => none
def rulesOfEscape : List (Nat × Nat) :=
  Mp.Generated.escapeRules.filterMap fun (r : List Nat × List Nat) => match r with | ([o], [92, c]) => some (c, o) | _ => none
theorem unescape_rules_are_go_rules : rulesOfUnescape.Perm Esc.goRules := by decide
theorem escape_rules_are_go_rules : rulesOfEscape.Perm Esc.goRules := by decide
theorem all_rules_well_formed : rulesOfUnescape.length = Mp.Generated.unescapeRules.length ∧ rulesOfEscape.length = Mp.Generated.escapeRules.length := by decide

/-! ### C03: the short-circuit table of opLogicalOperation.Do -/
theorem logic_table : logicTable = [("LOT_And", "!b", "false"), ("LOT_Or", "b", "true"), ("LOT_And", "end", "true"), ("LOT_Or", "end", "false")] := rfl
theorem logic_keywords : lotAnd = "And" ∧ lotOr = "Or" := ⟨rfl, rfl⟩

/-! ### C11: no `Do` method assigns to its receiver -/
theorem do_methods_do_not_write_receiver : receiverWritesInDo = [] := rfl

/-! ### C12 / C16: the caches are touched only by CueValidate, under the mutex; key of each read = key of the write =
    argument of the computing call (the skeleton `Mp.CacheProofs.step` follows) -/
theorem caches_guarded : cueValidateHoldsMutex = true ∧ cacheTouchedBy = ["CueValidate"] := ⟨rfl, rfl⟩
theorem cache_skeleton : cacheAccesses = [("read", "mpathOpCache", "query", ""), ("write", "mpathOpCache", "query", "op"),
    ("read", "cueValueCache", "cueFile", ""), ("write", "cueValueCache", "cueFile", "rootValue")] := rfl
theorem cache_values_are_functions_of_their_keys : cacheComputes = [("op", "ParseString", "query"), ("rootValue", "ctx.CompileString", "cueFile")] := rfl
theorem shared_writes_only_in_CueValidate : packageVarWrites = ["cueValueCache in CueValidate", "mpathOpCache in CueValidate"] := rfl
theorem package_state : packageVars = ["ErrKeyNotFound", "cueValidateMutex", "cueValueCache", "decimalType", "funcMap", "functionTypeByName", "invalidRunes", "mpathOpCache", "scannerPool"] := rfl

/-! ### C15: the closure loop uses a visited set, no goto; the base paths -/
theorem closure_shape : closureUsesVisitedSet = true ∧ closureUsesGoto = false := by decide
theorem base_paths : validFields = ["<current>", "_connections", "_input", "_metadata", "_secrets", "_variables", "connections", "input", "metadata", "secrets", "variables"] := rfl
theorem dependencies_field : bpDependencies = "_dependencies" := rfl

/-! ### C20: GetRootFieldsAccessed descends into path- and group-valued arguments -/
theorem root_fields_param_kinds : rootFieldsParamKinds = ["FP_LogicalOperation", "FP_Path"] := rfl

/-! ### C07 / C14: every published function is bound to its own implementation, is known to the parser model, and the
    return-kind lists proved in Mp.ReturnKinds agree with the published descriptors -/
theorem binding_is_diagonal : funcBinding.map (·.2.1) = funcBinding.map (·.1) ∧
    funcBinding.map (·.2.2) = funcTable.map (fun fd => "func_" ++ fd.name) := ⟨rfl, by decide +kernel⟩
theorem table_matches_binding : funcTable.map (fun fd => "FT_" ++ fd.name) = funcBinding.map (·.1) := by decide +kernel
theorem knownFuncs_perm : Mp.knownFuncs.Perm (funcTable.map (·.name)) := by decide +kernel
theorem published_functions_are_known : ∀ fd ∈ funcTable, fd.name ∈ Mp.knownFuncs :=
  fun _ h => knownFuncs_perm.mem_iff.2 (List.mem_map_of_mem h)
theorem known_functions_are_published : ∀ n ∈ Mp.knownFuncs, n ∈ funcTable.map (·.name) :=
  fun _ => knownFuncs_perm.mem_iff.1
theorem returnsBoolean_published : ∀ n ∈ Mp.returnsBoolean, ∃ fd ∈ funcTable, fd.name = n ∧ fd.returns = ("Boolean", "Single") := by decide +kernel
theorem returnsNumber_published : ∀ n ∈ Mp.returnsNumber, ∃ fd ∈ funcTable, fd.name = n ∧ fd.returns = ("Number", "Single") := by decide +kernel
theorem returnsString_published : ∀ n ∈ Mp.returnsString, ∃ fd ∈ funcTable, fd.name = n ∧ fd.returns = ("String", "Single") := by decide +kernel

/-! The checks read the lines these print in the build log: a fact whose proof fails prints none and is reported by its name. -/
#print axioms params_order
#print axioms number_kinds
#print axioms convert_covers_numbers
#print axioms convert_follows_indirection
#print axioms isNil_kinds
#print axioms isEmptyValue_kinds
#print axioms reset_restores_pool_mode
#print axioms reset_installs_handler
#print axioms deferred_clean_up
#print axioms parse_rejects_empty
#print axioms invalid_runes
#print axioms unescape_rules_are_go_rules
#print axioms escape_rules_are_go_rules
#print axioms all_rules_well_formed
#print axioms logic_table
#print axioms logic_keywords
#print axioms do_methods_do_not_write_receiver
#print axioms pool_protocol
#print axioms caches_guarded
#print axioms cache_skeleton
#print axioms cache_values_are_functions_of_their_keys
#print axioms shared_writes_only_in_CueValidate
#print axioms package_state
#print axioms closure_shape
#print axioms base_paths
#print axioms dependencies_field
#print axioms root_fields_param_kinds
#print axioms binding_is_diagonal
#print axioms table_matches_binding
#print axioms published_functions_are_known
#print axioms known_functions_are_published
#print axioms returnsBoolean_published
#print axioms returnsNumber_published
#print axioms returnsString_published
end Mp.FactChecks
