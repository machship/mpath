import Mp.DecOps
/-! `Dec.rescale`, `rescalePair`, `cmp`, `add` and `sub` case by case on the exponents. Core-only. -/
namespace Mp.Dec

theorem rescale_of_eq {d : Dec} {e : Int} (h : d.exp = e) : d.rescale e = d := by
  rw [rescale, if_pos (beq_iff_eq.mpr h)]

theorem rescale_of_le {d : Dec} {e : Int} (h : e ≤ d.exp) : d.rescale e = ⟨d.coef * 10 ^ (d.exp - e).toNat, e⟩ := by
  rcases Int.lt_or_eq_of_le h with h | rfl
  · rw [rescale, if_neg (by simpa using Int.ne_of_gt h), if_neg (by omega)]
  · rw [rescale_of_eq rfl, Int.sub_self, Int.toNat_zero, Int.pow_zero, Int.mul_one]

theorem rescale_of_ge {d : Dec} {e : Int} (h : d.exp ≤ e) : d.rescale e = ⟨d.coef.tdiv (10 ^ (e - d.exp).toNat), e⟩ := by
  rcases Int.lt_or_eq_of_le h with h | rfl
  · rw [rescale, if_neg (by simpa using Int.ne_of_lt h), if_pos h]
  · rw [rescale_of_eq rfl, Int.sub_self, Int.toNat_zero, Int.pow_zero, Int.tdiv_one]

theorem rescale_exp (d : Dec) (e : Int) : (d.rescale e).exp = e := by
  rcases Int.le_total e d.exp with h | h
  · rw [rescale_of_le h]
  · rw [rescale_of_ge h]

theorem rescalePair_eq (a b : Dec) :
    rescalePair a b = (a.rescale (min a.exp b.exp), b.rescale (min a.exp b.exp)) := by
  unfold rescalePair
  rcases Int.lt_trichotomy a.exp b.exp with h | h | h
  · simp [Int.ne_of_lt h, Int.not_le.mpr h, Int.min_eq_left (Int.le_of_lt h), rescale_of_eq]
  · simp [h, rescale_of_eq]
  · simp [Int.ne_of_gt h, Int.ne_of_lt h, Int.le_of_lt h, Int.min_eq_right (Int.le_of_lt h), rescale_of_eq]

theorem cmp_of_exp_le {a b : Dec} (h : a.exp ≤ b.exp) : cmp a b = compare a.coef (b.rescale a.exp).coef := by
  rw [cmp, rescalePair_eq, Int.min_eq_left h, rescale_of_eq rfl]

theorem cmp_of_exp_ge {a b : Dec} (h : b.exp ≤ a.exp) : cmp a b = compare (a.rescale b.exp).coef b.coef := by
  rw [cmp, rescalePair_eq, Int.min_eq_right h, rescale_of_eq rfl]

theorem add_same_exp (m n e : Int) : add ⟨m, e⟩ ⟨n, e⟩ = ⟨m + n, e⟩ := by simp [add, rescalePair]
theorem sub_same_exp (m n e : Int) : sub ⟨m, e⟩ ⟨n, e⟩ = ⟨m - n, e⟩ := by simp [sub, rescalePair]

end Mp.Dec
