import Mp.SprintStruct
import Mp.EvalS
/-! C09, "evaluates to the same result on every data value". The evaluator runs on the elaborated tree, and elaboration never looks
    at the text the parser recorded in a node, at any depth (arguments, filters, the literal a `Select` call carries): operations
    equal after `erPath` / `erLogic` elaborate to the same tree. So this clause of the property follows from its "same structure"
    clause, as the fixed-point clause does (`sprint_of_same_structure`). Core-only. -/
namespace Mp

theorem any_erParams (f : Param → Bool) (hf : ∀ p, f (erParam p) = f p) : ∀ ps : List Param, (erParams ps).any f = ps.any f
  | [] => rfl
  | p :: ps => by simp only [erParams, List.any_cons, hf, any_erParams f hf ps]

/-- the selector that `elabPart` computes for a call, the same text (`elabPart_func_sel`) -/
def selOf (T : Tables) (fuel : Nat) (name : Bytes) (params : List Param) : ESel :=
  if name != str "Select" then .none else
  if params.any (fun p => match p with | .path _ => true | .logic _ => true | _ => false) then .dyn else
  match fuel, params with
  | fuel'+1, [.str q] =>
    match (parse T q).1 with
    | .op (.path p) => .path (elabPath T (min fuel' q.length) p)
    | .op (.logic l) => .logic (elabLogic T (min fuel' q.length) l)
    | _ => .bad
  | _, _ => .bad

/-- `elabPart_func` of ReadSet.lean (C20, not imported here) is this with the selector left open -/
theorem elabPart_func_sel (T : Tables) (fuel : Nat) (i : Bool) (n : Bytes) (ps : List Param) (us : Bytes) :
    elabPart T fuel (.func i n ps us) = .func n (elabParams T fuel ps) (selOf T fuel n ps) := by
  unfold elabPart selOf; rfl

/-- an argument list is one string literal after the erasure iff it was before, and then it is the same literal -/
theorem selOf_er (T : Tables) (fuel : Nat) (n : Bytes) (ps : List Param) : selOf T fuel n (erParams ps) = selOf T fuel n ps := by
  unfold selOf
  rw [any_erParams _ (fun p => by cases p <;> rfl)]
  match ps with
  | [] => rfl
  | [p] => cases p <;> rfl
  | p :: q :: qs => simp only [erParams]; cases p <;> cases fuel <;> rfl

mutual
theorem elab_erPath (T : Tables) (fuel : Nat) (p : PathOp) : elabPath T fuel (erPath p) = elabPath T fuel p := by
  cases p with
  | mk i r f m ops us => unfold erPath elabPath; rw [elab_erParts T fuel ops]
termination_by structural p
theorem elab_erParts (T : Tables) (fuel : Nat) (ps : List PathPart) : elabParts T fuel (erParts ps) = elabParts T fuel ps := by
  cases ps with
  | nil => rfl
  | cons p ps => unfold erParts elabParts; rw [elab_erPart T fuel p, elab_erParts T fuel ps]
termination_by structural ps
theorem elab_erPart (T : Tables) (fuel : Nat) (p : PathPart) : elabPart T fuel (erPart p) = elabPart T fuel p := by
  cases p with
  | ident n pr us => unfold erPart elabPart; rfl
  | filter lo us => unfold erPart elabPart; rw [elab_erLogic T fuel lo]
  | func i n ps us =>
    unfold erPart
    rw [elabPart_func_sel, elabPart_func_sel, elab_erParams T fuel ps, selOf_er]
termination_by structural p
theorem elab_erParams (T : Tables) (fuel : Nat) (ps : List Param) : elabParams T fuel (erParams ps) = elabParams T fuel ps := by
  cases ps with
  | nil => rfl
  | cons p ps => unfold erParams elabParams; rw [elab_erParam T fuel p, elab_erParams T fuel ps]
termination_by structural ps
theorem elab_erParam (T : Tables) (fuel : Nat) (p : Param) : elabParam T fuel (erParam p) = elabParam T fuel p := by
  cases p with
  | num d => rfl
  | str s => rfl
  | bool b => rfl
  | path q => unfold erParam elabParam; rw [elab_erPath T fuel q]
  | logic l => unfold erParam elabParam; rw [elab_erLogic T fuel l]
termination_by structural p
theorem elab_erLogic (T : Tables) (fuel : Nat) (l : LogicOp) : elabLogic T fuel (erLogic l) = elabLogic T fuel l := by
  cases l with
  | mk i f ty ops us => unfold erLogic elabLogic; rw [elab_erLParts T fuel ops]
termination_by structural l
theorem elab_erLParts (T : Tables) (fuel : Nat) (ps : List LogicPart) : elabLParts T fuel (erLParts ps) = elabLParts T fuel ps := by
  cases ps with
  | nil => rfl
  | cons p ps => unfold erLParts elabLParts; rw [elab_erLPart T fuel p, elab_erLParts T fuel ps]
termination_by structural ps
theorem elab_erLPart (T : Tables) (fuel : Nat) (p : LogicPart) : elabLPart T fuel (erLPart p) = elabLPart T fuel p := by
  cases p with
  | path q => unfold erLPart elabLPart; rw [elab_erPath T fuel q]
  | logic l => unfold erLPart elabLPart; rw [elab_erLogic T fuel l]
termination_by structural p
end

/-- C09: two paths of the same structure evaluate to the same outcome on every current value and every root value, whatever
    text was typed to obtain them and whatever the parser marked them with. -/
theorem eval_of_same_structure (T : Tables) (fuel : Nat) (p q : PathOp) (h : erPath p = erPath q) (cur orig : GoVal) :
    sPath (elabPath T fuel p) cur orig = sPath (elabPath T fuel q) cur orig := by
  rw [← elab_erPath T fuel p, ← elab_erPath T fuel q, h]

theorem evalLogic_of_same_structure (T : Tables) (fuel : Nat) (l m : LogicOp) (h : erLogic l = erLogic m) (cur orig : GoVal) :
    sLogic (elabLogic T fuel l) cur orig = sLogic (elabLogic T fuel m) cur orig := by
  rw [← elab_erLogic T fuel l, ← elab_erLogic T fuel m, h]

/-- elaboration does not read the `IsInvalid` and `MustEndInFunctionOrIdent` marks of a path either -/
theorem elab_ignores_marks (T : Tables) (fuel : Nat) (i i' r f m m' : Bool) (ops : List PathPart) (us us' : Bytes) :
    elabPath T fuel (.mk i r f m ops us) = elabPath T fuel (.mk i' r f m' ops us') := by
  unfold elabPath; rfl

/-- non-vacuity: two spellings of one query (recorded texts differ) have the same structure -/
example : erPath (.mk false true false false [.ident [97] false [97]] [36, 46, 97])
        = erPath (.mk false true false false [.ident [97] false [32, 97]] [36, 32, 46, 97]) :=
  rfl

end Mp
