import Mp.DecProofs
/-! C04. `Dec.divRound` is the integer core `roundQuot` applied to the pair `qrArgs` of integers that QuoRem divides; `roundQuot` is
    truncated division followed by a step away from zero, and is bounded over ℚ. -/
namespace Mp
namespace Dec

theorem sign_eq (x : Int) : sign x = x.sign := by
  unfold sign
  split
  · rw [Int.sign_eq_neg_one_of_neg ‹_›]
  · split
    · rw [Int.sign_eq_one_of_pos ‹_›]
    · rw [show x = 0 by omega]
      rfl

theorem tmod_spec (a : Int) {b : Int} (hb : b ≠ 0) :
    (a.tmod b : ℚ) = a - b * a.tdiv b ∧ |(a.tmod b : ℚ)| < |(b : ℚ)| ∧ 0 ≤ (a.tmod b : ℚ) * a := by
  refine ⟨?_, ?_, ?_⟩
  · exact_mod_cast Int.tmod_def a b
  · rw [← natAbs_cast, ← natAbs_cast, Int.natAbs_tmod]
    exact_mod_cast Nat.mod_lt _ (Int.natAbs_pos.mpr hb)
  · have : 0 ≤ a.tmod b * a := by
      rw [← Int.sign_nonneg_iff, Int.sign_mul, Int.sign_tmod]
      split
      · simp
      · exact mul_self_nonneg _
    exact_mod_cast this

theorem tdiv_frac (a : Int) {b : Int} (hb : b ≠ 0) : (a : ℚ) / b - a.tdiv b = (a.tmod b : ℚ) / b := by
  rw [(tmod_spec a hb).1, sub_div, mul_div_cancel_left₀ _ (Int.cast_ne_zero.mpr hb)]

theorem tdiv_trunc (a : Int) {b : Int} (hb : b ≠ 0) :
    |(a : ℚ) / b - a.tdiv b| < 1 ∧ |(a.tdiv b : ℚ)| ≤ |(a : ℚ) / b| := by
  have hbq : (0 : ℚ) < |(b : ℚ)| := abs_pos.mpr (Int.cast_ne_zero.mpr hb)
  constructor
  · rw [tdiv_frac a hb, abs_div, div_lt_one hbq]
    exact (tmod_spec a hb).2.1
  · rw [abs_div, le_div_iff₀ hbq, ← natAbs_cast, ← natAbs_cast, ← natAbs_cast, Int.natAbs_tdiv]
    exact_mod_cast Nat.div_mul_le_self a.natAbs b.natAbs

/-- integer core of DivRound: truncated quotient, then one step away from zero when 2|r| ≥ |b| -/
def roundQuot (a b : Int) : Int :=
  let q := Int.tdiv a b
  let r := Int.tmod a b
  if 2 * (r.natAbs : Int) < (b.natAbs : Int) then q
  else if sign a * sign b < 0 then q - 1 else q + 1

/-- `roundQuot` read over ℚ, `q` standing for `y` truncated -/
theorem round_trunc {y q : ℚ} (hlt : |y - q| < 1) (hq : |q| ≤ |y|) :
    |(if |y - q| < 1 / 2 then q else if y < 0 then q - 1 else q + 1) - y| ≤ 1 / 2 := by
  split_ifs with h1 h2
  · rw [abs_sub_comm]
    exact h1.le
  · have hyq : y ≤ q := by linarith [neg_abs_le q, abs_of_neg h2]
    rw [abs_of_nonpos (sub_nonpos.mpr hyq)] at h1 hlt
    rw [abs_le]
    constructor <;> linarith
  · have hqy : q ≤ y := by linarith [le_abs_self q, abs_of_nonneg (not_lt.mp h2)]
    rw [abs_of_nonneg (sub_nonneg.mpr hqy)] at h1 hlt
    rw [abs_le]
    constructor <;> linarith

theorem sign_mul_neg_iff (a b : Int) : sign a * sign b < 0 ↔ (a : ℚ) / b < 0 := by
  rw [sign_eq, sign_eq, ← Int.sign_mul, Int.sign_neg_iff, div_neg_iff, ← mul_neg_iff]
  exact_mod_cast Iff.rfl

theorem roundQuot_bound (a b : Int) (hb : b ≠ 0) : |(roundQuot a b : ℚ) - (a : ℚ) / b| ≤ 1 / 2 := by
  obtain ⟨hlt, hq⟩ := tdiv_trunc a hb
  have hbq : (0 : ℚ) < |(b : ℚ)| := abs_pos.mpr (Int.cast_ne_zero.mpr hb)
  have htest : 2 * ((a.tmod b).natAbs : Int) < (b.natAbs : Int) ↔ |(a : ℚ) / b - a.tdiv b| < 1 / 2 := by
    rw [tdiv_frac a hb, abs_div, div_lt_div_iff₀ hbq two_pos, one_mul, mul_comm, ← Int.cast_lt (R := ℚ)]
    push_cast
    rfl
  simp only [roundQuot, htest, sign_mul_neg_iff]
  push_cast
  exact round_trunc hlt hq

/-- numerator / denominator that QuoRem forms -/
def qrArgs (d d2 : Dec) (prec : Int) : Int × Int :=
  let e := d.exp - d2.exp + prec
  if e < 0 then (d.coef, d2.coef * 10 ^ (-e).toNat) else (d.coef * 10 ^ e.toNat, d2.coef)

/-- exponent of the remainder QuoRem returns -/
def remExp (d d2 : Dec) (prec : Int) : Int := if d.exp - d2.exp + prec < 0 then d.exp else -prec + d2.exp

theorem quoRem_eq (d d2 : Dec) (prec : Int) :
    quoRem d d2 prec =
      (⟨Int.tdiv (qrArgs d d2 prec).1 (qrArgs d d2 prec).2, -prec⟩,
       ⟨Int.tmod (qrArgs d d2 prec).1 (qrArgs d d2 prec).2, remExp d d2 prec⟩) := by
  unfold quoRem qrArgs remExp
  have : d.exp - d2.exp - -prec = d.exp - d2.exp + prec := by omega
  simp only [this]
  split <;> rfl

theorem qrArgs_scale (d d2 : Dec) (prec : Int) :
    d.toRat = (qrArgs d d2 prec).1 * (10 : ℚ) ^ remExp d d2 prec ∧
    d2.toRat = (qrArgs d d2 prec).2 * (10 : ℚ) ^ (remExp d d2 prec + prec) := by
  unfold qrArgs remExp
  simp only
  split
  · exact ⟨rfl, (toRat_shift d2.coef (by omega) (by omega)).symm⟩
  · exact ⟨(toRat_shift d.coef (by omega) (by omega)).symm, by rw [show -prec + d2.exp + prec = d2.exp by omega]; rfl⟩

theorem qrArgs_den_ne (d d2 : Dec) (prec : Int) (h : d2.coef ≠ 0) : (qrArgs d d2 prec).2 ≠ 0 := by
  intro h0
  apply h
  rw [← toRat_eq_zero, (qrArgs_scale d d2 prec).2, h0, Int.cast_zero, zero_mul]

theorem qrArgs_sign (d d2 : Dec) (prec : Int) :
    sign (qrArgs d d2 prec).1 = sign d.coef ∧ sign (qrArgs d d2 prec).2 = sign d2.coef := by
  have hs (x : Int) (n : Nat) : sign (x * 10 ^ n) = sign x := by
    rw [sign_eq, sign_eq, Int.sign_mul, Int.sign_eq_one_of_pos (Int.pow_pos (by decide)), Int.mul_one]
  unfold qrArgs
  simp only
  split
  · exact ⟨rfl, hs _ _⟩
  · exact ⟨hs _ _, rfl⟩

theorem qrArgs_ratio (d d2 : Dec) (prec : Int) (h : d2.coef ≠ 0) :
    ((qrArgs d d2 prec).1 : ℚ) / (qrArgs d d2 prec).2 = d.toRat / d2.toRat * (10 : ℚ) ^ prec := by
  obtain ⟨h1, h2⟩ := qrArgs_scale d d2 prec
  rw [h1, h2, zpow_add₀ ten_ne, ← mul_assoc, div_mul_eq_mul_div, mul_div_mul_right _ _ (ten_pos prec).ne',
    mul_div_mul_right _ _ (ten_pos _).ne']

/-- the rounding test of DivRound; the exponent written out on the left is `remExp d d2 prec` -/
theorem round_test (d d2 : Dec) (prec : Int) (r : Int) :
    (cmp ⟨(r.natAbs : Int) * 2, (if d.exp - d2.exp + prec < 0 then d.exp else -prec + d2.exp) + prec⟩ d2.abs = .lt)
      ↔ 2 * (r.natAbs : Int) < ((qrArgs d d2 prec).2.natAbs : Int) := by
  rw [cmp_eq_lt, abs_toRat, (qrArgs_scale d d2 prec).2, abs_mul, abs_of_pos (ten_pos _), ← natAbs_cast, mul_comm 2]
  exact (mul_lt_mul_iff_of_pos_right (ten_pos _)).trans Int.cast_lt

theorem divRound_eq (d d2 : Dec) (prec : Int) :
    divRound d d2 prec = ⟨roundQuot (qrArgs d d2 prec).1 (qrArgs d d2 prec).2, -prec⟩ := by
  obtain ⟨hs1, hs2⟩ := qrArgs_sign d d2 prec
  have ht := round_test d d2 prec (Int.tmod (qrArgs d d2 prec).1 (qrArgs d d2 prec).2)
  unfold divRound
  simp only [quoRem_eq, remExp, roundQuot, hs1, hs2, ← ht, sub_same_exp, add_same_exp]
  generalize cmp _ d2.abs = c
  cases c
  · rfl
  all_goals exact (apply_ite (Dec.mk · (-prec)) _ _ _).symm

/-- C04: Divide (precision 16 in mpath; any precision here) is within half a unit of the last place of the exact quotient -/
theorem divRound_bound (d d2 : Dec) (prec : Int) (h : d2.coef ≠ 0) :
    |(divRound d d2 prec).toRat - d.toRat / d2.toRat| ≤ 1 / 2 * (10 : ℚ) ^ (-prec) := by
  have hb := roundQuot_bound (qrArgs d d2 prec).1 _ (qrArgs_den_ne d d2 prec h)
  have hp := ten_pos (-prec)
  have hq : d.toRat / d2.toRat = ((qrArgs d d2 prec).1 : ℚ) / (qrArgs d d2 prec).2 * (10 : ℚ) ^ (-prec) := by
    rw [qrArgs_ratio d d2 prec h, zpow_neg, mul_inv_cancel_right₀ (ten_pos prec).ne']
  rw [divRound_eq, hq, toRat, ← sub_mul, abs_mul, abs_of_pos hp]
  exact mul_le_mul_of_nonneg_right hb hp.le

theorem div_bound (a b : Dec) (h : b.coef ≠ 0) : |(a.div b).toRat - a.toRat / b.toRat| ≤ 1 / 2 * (10 : ℚ) ^ (-16 : Int) :=
  divRound_bound a b 16 h

#print axioms roundQuot_bound
#print axioms qrArgs_ratio
#print axioms div_bound
end Dec
end Mp
