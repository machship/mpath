import Mp.EvalS
/-! What the reflection layer under the evaluator (`RV`, the number conversions, `normalizeValue`, `findMapKey`, `identDo`,
    `fieldByName`) does on a value not behind a pointer, so that proofs about the evaluator need not unfold it; `sPart_ident` is
    the step at which the structural evaluator hands a key to that layer. Core-only. -/
namespace Mp

def GoVal.isLeaf : GoVal → Bool
  | .map .. | .struct .. | .slice .. | .array .. | .ptr .. => false
  | _ => true

def GoVal.isObject : GoVal → Bool
  | .map _ false _ _ | .struct .. => true
  | _ => false

theorem isNilVal_object {v : GoVal} (h : v.isObject = true) : isNilVal v = false := by
  cases v with
  | map kk n ks vs => cases n <;> first | rfl | cases h
  | struct ns vs => rfl
  | _ => cases h

theorem derefAll_kind_object {v : GoVal} (h : v.isObject = true) :
    ((RV.iface v).derefAll.kind == .struct || (RV.iface v).derefAll.kind == .map) = true := by
  cases v with
  | map kk n ks vs => rfl
  | struct ns vs => rfl
  | _ => cases h

theorem GoVal.kind_int (k : NumKind) (n : Bool) (i : Int) : (GoVal.int k n i).kind = .int ∨ (GoVal.int k n i).kind = .uint := by
  simp only [GoVal.kind]
  split <;> simp

theorem RV.kind_of (v : GoVal) : (RV.of v).kind = v.kind := by cases v <;> rfl

theorem RV.derefOnce_of {v : GoVal} (hp : v.kind ≠ .ptr) : (RV.of v).derefOnce = RV.of v := by
  cases v with
  | ptr n w => exact absurd rfl hp
  | errVal => exact absurd rfl hp
  | int k n i => cases k <;> rfl
  | _ => rfl

theorem toDecimalIfNumber_of_kind {v : GoVal} (h : v.kind ∉ [Kind.int, .uint, .float, .ptr, .string]) : toDecimalIfNumber v = v := by
  have hp : v.kind ≠ .ptr := fun hk => h (by simp [hk])
  unfold toDecimalIfNumber toDecimalCheck
  simp only [RV.derefOnce_of hp, ite_self]
  cases v with
  | int k n i => rcases GoVal.kind_int k n i with hk | hk <;> simp [hk] at h
  | str n s => simp [GoVal.kind] at h
  | f64 n f => simp [GoVal.kind] at h
  | _ => rfl

theorem numberKindsToDecimal_of_kind {v : GoVal} (h : v.kind ∉ [Kind.int, .uint, .float, .ptr]) : numberKindsToDecimal v = v := by
  have hp : v.kind ≠ .ptr := fun hk => h (by simp [hk])
  unfold numberKindsToDecimal
  simp only [RV.derefOnce_of hp, ite_self, RV.kind_of]
  split
  · rfl
  · next hs => exact toDecimalIfNumber_of_kind (by simp_all)

theorem toDecimalIfNumber_str {n : Bool} {s : Bytes} (h : Dec.ofString s = none) : toDecimalIfNumber (.str n s) = .str n s := by
  have hp : (GoVal.str n s).kind ≠ .ptr := nofun
  unfold toDecimalIfNumber toDecimalCheck
  simp only [RV.derefOnce_of hp, ite_self]
  simp only [RV.of, h]

theorem norm_bool (m b : Bool) : normalizeValue (.bool m b) = .bool false b := rfl
theorem norm_int (k n v) : normalizeValue (.int k n v) = .dec ⟨v, 0⟩ := rfl
theorem norm_slice (ei xs) : normalizeValue (.slice ei false xs) = .slice true false (normalizeList xs) := rfl
theorem norm_array (ei xs) : normalizeValue (.array ei xs) = .slice true false (normalizeList xs) := rfl
theorem norm_struct (ns : List (Bytes × Bool)) (vs : List GoVal) : normalizeValue (.struct ns vs) = .struct ns vs := rfl
theorem norm_map (kk : KeyKind) (n : Bool) (ks : List Bytes) (vs : List GoVal) :
    normalizeValue (.map kk n ks vs) = .map kk n ks vs := rfl

theorem asStructOrSlice_slice (ei n : Bool) (xs : List GoVal) :
    asStructOrSlice (.slice ei n xs) = some (.slice true false xs, false) := by
  cases xs <;> cases ei <;> rfl

theorem asStructOrSlice_array (ei : Bool) (xs : List GoVal) :
    asStructOrSlice (.array ei xs) = some (.slice true false xs, false) :=
  rfl

theorem equalFold_refl (a : Bytes) : equalFold a a = true := allEqFold_refl _

theorem findMapKey_cons_of_not_fold {name k : Bytes} (h : equalFold k name = false) (ks : List Bytes) (v : GoVal) (vs : List GoVal) :
    findMapKey (k :: ks) (v :: vs) name = findMapKey ks vs name := by
  have hne : (k == name) = false := by
    cases hc : k == name with
    | false => rfl
    | true => rw [← h, eq_of_beq hc, equalFold_refl]
  simp [findMapKey, hne, h]

theorem findMapKey_cons_of_fold {name k : Bytes} (h : equalFold k name = true) (hk : k ≠ []) {ks : List Bytes}
    (hrest : ∀ k' ∈ ks, equalFold k' name = false) (v : GoVal) (vs : List GoVal) :
    findMapKey (k :: ks) (v :: vs) name = some v := by
  have hfind : (ks.zip vs).find? (fun p => p.1 == name) = none := by
    apply List.find?_eq_none.mpr
    intro p hp hc
    have := hrest p.1 (List.of_mem_zip hp).1
    rw [eq_of_beq hc, equalFold_refl] at this
    cases this
  have hfilt : (ks.zip vs).filter (fun p => equalFold p.1 name && !p.1.isEmpty) = [] :=
    List.filter_eq_nil_iff.mpr fun p hp => by simp [hrest p.1 (List.of_mem_zip hp).1]
  have hke : k.isEmpty = false := by cases k with | nil => exact absurd rfl hk | cons _ _ => rfl
  unfold findMapKey
  cases hex : k == name <;> simp [hex, hfind, hfilt, h, hke]

theorem sPart_ident (k : Bytes) (p : Bool) (cur orig : GoVal) : sPart (.ident k p) cur orig = identDo k cur := rfl

theorem identDo_leaf (name : Bytes) {v : GoVal} (h : v.isLeaf = true) : identDo name v = .knf := by
  cases v with
  | int k n i =>
    unfold identDo valuesByName
    rcases GoVal.kind_int k n i with hk | hk <;> simp [RV.of, RV.derefOnce, RV.kind, hk]
  | map | struct | slice | array | ptr => cases h
  -- the test for the zero value in front does not compute on these; both of its branches are `knf`
  | bool | str | f64 => simp [identDo, valuesByName, RV.of, RV.derefOnce, RV.kind, GoVal.kind]
  | _ => rfl

theorem identDo_nil (name : Bytes) : identDo name .nil = .knf := identDo_leaf name rfl

theorem fieldByName_iface_leaf (name : Bytes) {v : GoVal} (h : v.isLeaf = true) : fieldByName name (.iface v) = none := by
  cases v <;> first | rfl | cases h

theorem fieldByName_iface_slice (name : Bytes) (ei n : Bool) (xs : List GoVal) : fieldByName name (.iface (.slice ei n xs)) = none :=
  rfl

theorem identDo_map (name : Bytes) (kk : KeyKind) (n : Bool) (ks : List Bytes) (vs : List GoVal) :
    identDo name (.map kk n ks vs) =
      match findMapKey ks vs name with | some v => .ok (numberKindsToDecimal v) | none => .knf :=
  rfl

theorem fieldByName_iface_map (name : Bytes) (kk : KeyKind) (n : Bool) (ks : List Bytes) (vs : List GoVal) :
    fieldByName name (.iface (.map kk n ks vs)) = (findMapKey ks vs name).map numberKindsToDecimal :=
  rfl

theorem fieldByName_iface_struct (name : Bytes) (ns : List (Bytes × Bool)) (vs : List GoVal) :
    fieldByName name (.iface (.struct ns vs)) =
      ((ns.zip vs).find? (fun p => p.1.2 && equalFold p.1.1 name)).map (fun p => numberKindsToDecimal p.2) := by
  simp only [fieldByName, RV.of, RV.derefAll, GoVal.strip, isEmptyValue]
  cases (ns.zip vs).find? (fun p => p.1.2 && equalFold p.1.1 name) <;> rfl

theorem identDo_object (name : Bytes) {v : GoVal} (h : v.isObject = true) :
    identDo name v = match fieldByName name (.iface v) with | some o => .ok o | none => .knf := by
  cases v with
  | map kk n ks vs =>
    rw [identDo_map, fieldByName_iface_map]
    cases findMapKey ks vs name <;> rfl
  | struct ns vs => rfl
  | _ => cases h

/-- `getValuesByName` on a `[]any`: the first element alone decides whether the list is projected at all -/
theorem identDo_slice (name : Bytes) (gs : List GoVal) :
    identDo name (.slice true false gs) =
      match gs with
      | [] => .knf
      | g :: _ =>
        if !((RV.iface g).derefAll.kind == .struct || (RV.iface g).derefAll.kind == .map) then .knf
        else if ((gs.map RV.iface).filterMap (fieldByName name)).isEmpty then .knf
        else .ok (.slice true false ((gs.map RV.iface).filterMap (fieldByName name))) := by
  cases gs <;> rfl

end Mp
