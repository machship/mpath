import Mp.Eval
import Mp.Analysis
import Mp.OrdProofs
/-! Bytewise `<` on Go strings is written out three times in the model: `bytesLt` (findMapKey), `GoJson.keyLt` (the member order of
    json.Marshal) and `insertSortedB.bytesLtA` (slices.Sort in GetRootFieldsAccessed). All three are `OrdP.lexLt` over `<` on bytes,
    hence one strict total order. Core-only. -/
namespace Mp

theorem bytesLt_eq_lex : bytesLt = OrdP.lexLt (fun (x y : UInt8) => decide (x < y)) := by
  funext l m
  fun_induction bytesLt l m <;> simp [OrdP.lexLt, *]

theorem keyLt_eq : GoJson.keyLt = bytesLt := by
  funext l m
  fun_induction bytesLt l m <;> simp [GoJson.keyLt, *]

theorem bytesLtA_eq : insertSortedB.bytesLtA = bytesLt := by
  funext l m
  fun_induction bytesLt l m <;> simp [insertSortedB.bytesLtA, *]

theorem bytesLt_strict : OrdP.Ord bytesLt := bytesLt_eq_lex ▸ OrdP.byte_ord.lex

theorem keyLt_ord : OrdP.Ord GoJson.keyLt := keyLt_eq ▸ bytesLt_strict

end Mp
