import Mp.JsonDoc
import Mp.JsonOutPerm
/-! C10, the other half: `AsJSON()` on a document in its map / slice carrier. The objects list their keys in key order, the order
    json.Marshal writes them in: a document that lists them otherwise comes back with the same members in key order. Core-only. -/
namespace Mp.GoJson
open Mp.L2 (Doc)

/-- a byte json.Marshal writes as it is (escapeHTML is on: `<`, `>` and `&` are not among them) -/
def OutByte (c : UInt8) : Prop := SafeByte c ∧ c ≠ 60 ∧ c ≠ 62 ∧ c ≠ 38
/-- inside `Mp.GoJson` the name hides the evaluator's outcome type `Mp.Out`, which the statements about `pureFunc` reach through its
    constructors (`.ok`) -/
def Out (s : Bytes) : Prop := ∀ c ∈ s, OutByte c

theorem out_safe {s : Bytes} (h : Out s) : Safe s := fun c hc => (h c hc).1

theorem encByte_out (c : UInt8) (h : OutByte c) : encByte c = [c] := by
  obtain ⟨⟨h1, h2, h3, h4⟩, h5, h6, h7⟩ := h
  have hc : ∀ k : UInt8, k.toNat < 32 → (c == k) = false := fun k hk => beq_false_of_ne (fun e => by subst e; omega)
  simp [encByte, h1, h2, h5, h6, h7, hc 8, hc 12, hc 10, hc 13, hc 9, Nat.not_lt.mpr h3]

theorem encBytes_out (s : Bytes) (h : Out s) : encBytes s = s := by
  induction s with
  | nil => rfl
  | cons c t ih =>
    simp only [encBytes, encByte_out c (h c List.mem_cons_self), ih (fun x hx => h x (List.mem_cons_of_mem _ hx))]
    rfl

theorem encString_out (s : Bytes) (h : Out s) : encString s = .ok (quote s) := by
  have : s.any (fun b => decide (b.toNat ≥ 128)) = false :=
    List.any_eq_false.mpr fun b hb => by simpa using (h b hb).1.2.2.2
  simp [encString, this, encBytes_out s h, quote]

mutual
/-- the documents the theorem speaks about: no numbers, strings and keys json.Marshal writes as they are, the keys of every object
    distinct and listed in key order -/
def WFo : Doc → Prop
  | .null => True
  | .bool _ => True
  | .num _ => False
  | .str s => Out s
  | .arr xs => WFos xs
  | .obj ks vs => ks.length = vs.length ∧ ks.Pairwise (fun a b => keyLt a b = true) ∧ (∀ k ∈ ks, Out k) ∧ WFos vs
def WFos : List Doc → Prop
  | [] => True
  | d :: ds => WFo d ∧ WFos ds
end

mutual
theorem wf_of_wfo (d : Doc) (h : WFo d) : WF d := by
  cases d with
  | null => trivial
  | bool b => trivial
  | num x => exact h.elim
  | str s => exact out_safe h
  | arr xs => exact wfs_of_wfos xs h
  | obj ks vs => exact ⟨h.1, keyLt_ord.nodup h.2.1, fun k hk => out_safe (h.2.2.1 k hk), wfs_of_wfos vs h.2.2.2⟩
termination_by structural d
theorem wfs_of_wfos (ds : List Doc) (h : WFos ds) : WFs ds := by
  cases ds with
  | nil => trivial
  | cons d ds => exact ⟨wf_of_wfo d h.1, wfs_of_wfos ds h.2⟩
termination_by structural ds
end

def memberTexts : List Bytes → List J → List (Bytes × Bytes)
  | k :: ks, v :: vs => (k, quote k ++ [58] ++ render v) :: memberTexts ks vs
  | _, _ => []

/-- `memberTexts` is `map memberText` over the zipped lists (`memberTexts_eq`), the form the lemmas about `List.map` apply to -/
def memberText (kv : Bytes × J) : Mem := (kv.1, quote kv.1 ++ [58] ++ render kv.2)

theorem memberTexts_eq : ∀ (ks : List Bytes) (vs : List J), memberTexts ks vs = (ks.zip vs).map memberText
  | [], _ => by simp [memberTexts]
  | _ :: _, [] => by simp [memberTexts]
  | k :: ks, v :: vs => by simp [memberTexts, memberText, memberTexts_eq ks vs]

theorem joinElems_render (xs : List J) : joinElems (xs.map render) = renderElems xs := by
  induction xs with
  | nil => rfl
  | cons x t ih => simp [joinElems, renderElems, ih]

theorem arrText_render (xs : List J) : arrText (xs.map render) = render (.arr xs) := by
  cases xs with
  | nil => rfl
  | cons x t => simp [arrText, render, joinElems_render]

theorem joinMembers_render (kvs : List (Bytes × J)) : joinMembers (kvs.map memberText) = renderMembers kvs := by
  induction kvs with
  | nil => rfl
  | cons kv t ih => simp [joinMembers, renderMembers, memberText, ih]

theorem objText_render (kvs : List (Bytes × J)) : objText (kvs.map memberText) = render (.obj kvs) := by
  cases kvs with
  | nil => rfl
  | cons kv t => simp [objText, render, memberText, joinMembers_render]

theorem memberTexts_sorted (ks : List Bytes) (vs : List J) (hl : ks.length = vs.length)
    (h : ks.Pairwise (fun a b => keyLt a b = true)) : Sorted (memberTexts ks vs) := by
  rw [memberTexts_eq, Sorted, List.pairwise_map]
  have hk : ((ks.zip vs).map (·.1)).Pairwise (fun a b => keyLt a b = true) := by
    rwa [List.map_fst_zip (Nat.le_of_eq hl)]
  exact List.pairwise_map.mp hk

mutual
/-- AsJSON writes the compact JSON text of the document -/
theorem marshal_render (d : Doc) (h : WFo d) : marshal (L2.render d) = .ok (render (ofDoc d)) := by
  cases d with
  | null => rfl
  | bool b => cases b <;> rfl
  | num x => exact h.elim
  | str s => simp [L2.render, marshal, ofDoc, render, encString_out s h]
  | arr xs =>
    simp only [L2.render, marshal, ofDoc, Bool.false_eq_true, if_false, isByteSlice, Bool.not_true, Bool.false_and,
      marshalList_render xs h, arrText_render]
  | obj ks vs =>
    obtain ⟨hlen, hasc, hout, hw⟩ := h
    have hl : ks.length = (ofDocs vs).length := hlen.trans (ofDocs_length vs).symm
    refine (marshal_map (by decide) ks _).trans ?_
    rw [marshalMembers_render ks vs hout hw, Sum.elim_inl,
      sortMembers_eq (.refl _) (memberTexts_sorted ks (ofDocs vs) hl hasc), memberTexts_eq, objText_render, ofDoc]
termination_by structural d
theorem marshalList_render (ds : List Doc) (h : WFos ds) : marshalList (L2.renderList ds) = .inl ((ofDocs ds).map render) := by
  cases ds with
  | nil => rfl
  | cons d ds => simp only [L2.renderList, marshalList, marshal_render d h.1, marshalList_render ds h.2, ofDocs, List.map_cons]
termination_by structural ds
theorem marshalMembers_render (ks : List Bytes) (vs : List Doc) (hk : ∀ k ∈ ks, Out k) (h : WFos vs) :
    marshalMembers ks (L2.renderList vs) = .inl (memberTexts ks (ofDocs vs)) := by
  cases vs with
  | nil => cases ks <;> rfl
  | cons v vs =>
    cases ks with
    | nil => rfl
    | cons k ks =>
      simp only [L2.renderList, marshalMembers, encString_out k (hk k List.mem_cons_self), marshal_render v h.1,
        marshalMembers_render ks vs (fun x hx => hk x (List.mem_cons_of_mem _ hx)) h.2, ofDocs, memberTexts]
termination_by structural vs
end

/-- the function model: `AsJSON()` on an object that is not empty returns the compact JSON text of the document -/
theorem asJSON_func (ks : List Bytes) (vs : List Doc) (h : WFo (.obj ks vs)) (hne : ks ≠ []) :
    pureFunc "AsJSON" [] (L2.render (.obj ks vs)) = some (.ok (.str false (render (ofDoc (.obj ks vs))))) := by
  have hemp : isEmptyValue (RV.of (L2.render (.obj ks vs))) = false := by
    cases ks with
    | nil => exact absurd rfl hne
    | cons k t => rfl
  rw [pureFunc_AsJSON_nonempty hemp, marshal_render (.obj ks vs) h]

/-- C10, AsJSON then ParseJSON: the text a document is written as, parsed again inside the query, is the document -/
theorem asJSON_then_parseJSON (ks : List Bytes) (vs : List Doc) (h : WFo (.obj ks vs)) (hne : ks ≠ []) :
    ∃ t, pureFunc "AsJSON" [] (L2.render (.obj ks vs)) = some (.ok (.str false t)) ∧
      pureFunc "ParseJSON" [] (.str false t) = some (.ok (L2.render (.obj ks vs))) :=
  ⟨_, asJSON_func ks vs h hne, parseJSON_func ks vs (wf_of_wfo _ h)⟩

example : WFo (.obj [[97], [98, 99]] [.arr [.bool true, .null, .str [120, 121]], .obj [[107]] [.str []]]) ∧ ([[97], [98, 99]] : List Bytes) ≠ [] := by
  simp only [WFo, WFos, Out, OutByte, SafeByte]
  exact ⟨⟨by decide, by decide, by decide, by decide⟩, by decide⟩

#print axioms marshal_render
#print axioms asJSON_func
#print axioms asJSON_then_parseJSON
end Mp.GoJson
