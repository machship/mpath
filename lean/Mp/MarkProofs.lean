import Mp.Parse
/-! C19 — the `?` mark of a key is one byte at the end of the token, whatever bytes the name is made of (ASCII, multi-byte
    UTF-8, invalid bytes): `Mp.splitMark`, which `Mp/Parse.lean` applies to every key token, gives back exactly the name and
    the mark. Core-only. -/
namespace Mp

theorem splitMark_marked (name : Bytes) : splitMark (name ++ [63]) = (name, true) := by
  simp [splitMark]

theorem splitMark_unmarked (name : Bytes) (h : name.getLast? ≠ some 63) : splitMark name = (name, false) := by
  simp [splitMark, h]

/-- the name of `größe?` is `größe` (7 bytes: `ö` and `ß` are two bytes each) -/
example : splitMark ([103, 114, 195, 182, 195, 159, 101] ++ [63]) = ([103, 114, 195, 182, 195, 159, 101], true) := splitMark_marked _

#print axioms splitMark_marked
#print axioms splitMark_unmarked
end Mp
