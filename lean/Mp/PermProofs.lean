/-! C11 — abstract keys `κ` with a strict total order `lt` (bytewise `<` in the model) and a match predicate `m`
    (`EqualFold` with the identifier); `exact` is `==` with the identifier. Core-only. -/
namespace PermP

variable {κ ν : Type} (lt : κ → κ → Bool) (exact m : κ → Bool)

/-- helpers.go findMapKey on the list of entries in iteration order -/
def findKey (ps : List (κ × ν)) : Option (κ × ν) :=
  match ps.find? (fun p => exact p.1) with
  | some p => some p
  | none =>
    match ps.filter (fun p => m p.1) with
    | [] => none
    | c :: cs => some (cs.foldl (fun best p => if lt p.1 best.1 then p else best) c)

/-- the twin of `OrdP.Ord` (`Mp/OrdProofs.lean`, which this module does not import): the same three fields. The order facts are
    proved for `OrdP.Ord`; `Mp.bytesLt_ord` (`Mp/C11Bridge.lean`) repacks the one about bytewise `<` into this structure -/
structure Ord : Prop where
  irrefl : ∀ a, lt a a = false
  trans : ∀ a b c, lt a b = true → lt b c = true → lt a c = true
  total : ∀ a b, a ≠ b → lt a b = true ∨ lt b a = true

def Least (x : κ × ν) (l : List (κ × ν)) : Prop := x ∈ l ∧ ∀ y ∈ l, y = x ∨ lt x.1 y.1 = true

theorem Least.perm {x : κ × ν} {l l' : List (κ × ν)} (hx : Least lt x l) (hp : l.Perm l') : Least lt x l' :=
  ⟨hp.mem_iff.mp hx.1, fun y hy => hx.2 y (hp.mem_iff.mpr hy)⟩

theorem Least.cons (ho : Ord lt) {x b z : κ × ν} {l : List (κ × ν)} (h : Least lt x l) (hb : b ∈ l)
    (hz : lt b.1 z.1 = true) : Least lt x (z :: l) := by
  refine ⟨List.mem_cons_of_mem _ h.1, fun y hy => ?_⟩
  rcases List.mem_cons.mp hy with rfl | hy
  · rcases h.2 b hb with rfl | hxb
    · exact Or.inr hz
    · exact Or.inr (ho.trans _ _ _ hxb hz)
  · exact h.2 y hy

theorem foldl_least (ho : Ord lt) : ∀ (cs : List (κ × ν)) (c : κ × ν),
    (∀ y ∈ cs, y.1 ≠ c.1) → (cs.Pairwise (fun a b => a.1 ≠ b.1)) →
    Least lt (cs.foldl (fun best p => if lt p.1 best.1 then p else best) c) (c :: cs)
  | [], c, _, _ => ⟨List.mem_cons_self, fun y hy => Or.inl (List.mem_singleton.mp hy)⟩
  | p :: cs, c, hne, hpw => by
    have ⟨hp, hpw'⟩ := List.pairwise_cons.mp hpw
    rw [List.foldl_cons]
    split
    · rename_i hlt
      exact (foldl_least ho cs p (fun y hy => (hp y hy).symm) hpw').cons lt ho List.mem_cons_self hlt
    · rename_i hnlt
      have hcp : lt c.1 p.1 = true := (ho.total _ _ (hne p List.mem_cons_self)).resolve_left hnlt
      have ih := foldl_least ho cs c (fun y hy => hne y (List.mem_cons_of_mem _ hy)) hpw'
      exact (ih.cons lt ho List.mem_cons_self hcp).perm lt (List.Perm.swap c p cs)

theorem least_unique (ho : Ord lt) (l : List (κ × ν)) (hd : l.Pairwise (fun a b => a.1 ≠ b.1)) (x y : κ × ν)
    (hx : Least lt x l) (hy : Least lt y l) : x = y := by
  rcases hx.2 y hy.1 with h | h
  · exact h.symm
  · rcases hy.2 x hx.1 with h2 | h2
    · exact h2
    · have := ho.trans _ _ _ h h2
      rw [ho.irrefl] at this; cases this

theorem find_perm (p : κ × ν → Bool) (l l' : List (κ × ν)) (hp : l.Perm l')
    (hu : ∀ a ∈ l, ∀ b ∈ l, p a = true → p b = true → a = b) : l.find? p = l'.find? p := by
  rw [← List.head?_filter, ← List.head?_filter]
  -- any two entries that satisfy `p` are equal, so the two filtered lists, each a permutation of the other, are one list
  refine congrArg _ ((hp.filter p).eq_of_pairwise (le := fun _ _ => True) (fun a b ha hb _ _ => ?_)
    (List.pairwise_of_forall fun _ _ => trivial) (List.pairwise_of_forall fun _ _ => trivial))
  have ⟨ha, hpa⟩ := List.mem_filter.mp ha
  have ⟨hb, hpb⟩ := List.mem_filter.mp hb
  exact hu a ha b (hp.mem_iff.mpr hb) hpa hpb

/-- C11: the entry that key lookup returns does not depend on the iteration order of the map -/
theorem findKey_perm (ho : Ord lt) (ps ps' : List (κ × ν)) (hp : ps.Perm ps')
    (hd : ps.Pairwise (fun a b => a.1 ≠ b.1))
    (hex : ∀ a b : κ, exact a = true → exact b = true → a = b) :
    findKey lt exact m ps = findKey lt exact m ps' := by
  have hR : ps.Pairwise (fun a b => a.1 = b.1 → a = b) := hd.imp (fun h e => absurd e h)
  have hkey := List.Pairwise.forall_of_forall_of_flip (fun _ _ _ => rfl) hR (hR.imp (fun h e => (h e.symm).symm))
  unfold findKey
  rw [← find_perm (fun p => exact p.1) ps ps' hp (fun a ha b hb h1 h2 => hkey ha hb (hex a.1 b.1 h1 h2))]
  cases ps.find? (fun p => exact p.1) with
  | some p => rfl
  | none =>
    simp only []
    have hpf := hp.filter (fun p => m p.1)
    have hdf := hd.filter (fun p => m p.1)
    generalize ps.filter (fun p => m p.1) = f at hpf hdf
    generalize ps'.filter (fun p => m p.1) = f' at hpf
    have hdf' := hpf.pairwise hdf Ne.symm
    -- the folds return the least entry of either candidate list, which is the same entry
    cases f with
    | nil => rw [hpf.nil_eq]
    | cons c cs =>
      cases f' with
      | nil => exact absurd hpf.eq_nil (List.cons_ne_nil _ _)
      | cons c' cs' =>
        have ⟨hc, hcs⟩ := List.pairwise_cons.mp hdf
        have ⟨hc', hcs'⟩ := List.pairwise_cons.mp hdf'
        have h1 := foldl_least lt ho cs c (fun y hy => (hc y hy).symm) hcs
        have h2 := foldl_least lt ho cs' c' (fun y hy => (hc' y hy).symm) hcs'
        simp only []
        rw [least_unique lt ho _ hdf' _ _ (h1.perm lt hpf) h2]

#print axioms findKey_perm
end PermP
