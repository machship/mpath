import Mp.DivProofs
/-! C04 — Modulo, for ALL decimals (any precision, any scale). -/
namespace Mp
namespace Dec

/-- the integer quotient Modulo uses: truncated division of the scaled coefficients -/
def modQuot (a b : Dec) : Int := Int.tdiv (qrArgs a b 0).1 (qrArgs a b 0).2

/-- C04: Modulo is exact. `a.mod b = a − b·q` with `q` an integer, the remainder is smaller than the divisor in absolute
    value and has the sign of the dividend (or is zero), i.e. `q = trunc(a/b)`. -/
theorem mod_spec (a b : Dec) (h : b.coef ≠ 0) :
    (a.mod b).toRat = a.toRat - b.toRat * (modQuot a b : ℚ) ∧
    |(a.mod b).toRat| < |b.toRat| ∧
    0 ≤ (a.mod b).toRat * a.toRat := by
  -- `tmod_spec` for the two integers QuoRem divides, times the common power of ten
  obtain ⟨ha, hb⟩ := qrArgs_scale a b 0
  obtain ⟨h1, h2, h3⟩ := tmod_spec (qrArgs a b 0).1 (qrArgs_den_ne a b 0 h)
  have hs := ten_pos (remExp a b 0)
  rw [add_zero] at hb
  rw [ha, hb, mod, quoRem_eq, modQuot]
  simp only [toRat]
  refine ⟨by rw [h1]; ring, ?_, ?_⟩
  · rw [abs_mul, abs_mul, abs_of_pos hs]
    exact mul_lt_mul_of_pos_right h2 hs
  · rw [mul_mul_mul_comm]
    exact mul_nonneg h3 (mul_self_nonneg _)

theorem modQuot_trunc (a b : Dec) (h : b.coef ≠ 0) :
    |a.toRat / b.toRat - (modQuot a b : ℚ)| < 1 ∧ |(modQuot a b : ℚ)| ≤ |a.toRat / b.toRat| := by
  have := tdiv_trunc (qrArgs a b 0).1 (qrArgs_den_ne a b 0 h)
  rwa [qrArgs_ratio a b 0 h, zpow_zero, mul_one] at this

#print axioms mod_spec
end Dec
end Mp
