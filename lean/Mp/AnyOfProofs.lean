import Mp.CmpFunc
/-! C05 / C17: AnyOf is "the input equals one of the arguments": numbers by value, strings and booleans exactly, different
    kinds never equal. The proof needs the arguments listed numbers first (paramsGetAll), a fact regenerated from the
    source (`Mp.FactChecks.params_order`). -/
namespace Mp
open Dec

theorem mem_prmNumbers {q : Dec} {ps : List Prm} : q ∈ prmNumbers ps ↔ Prm.num q ∈ ps := by
  simp only [prmNumbers, List.mem_filterMap]
  constructor
  · rintro ⟨p, hp, hq⟩
    cases p <;> cases hq
    exact hp
  · exact fun h => ⟨_, h, rfl⟩

theorem mem_prmStrings {s : Bytes} {ps : List Prm} : s ∈ prmStrings ps ↔ Prm.str s ∈ ps := by
  simp only [prmStrings, List.mem_filterMap]
  constructor
  · rintro ⟨p, hp, hs⟩
    cases p <;> cases hs
    exact hp
  · exact fun h => ⟨_, h, rfl⟩

/-- on a number the scan stops at the first argument that is not a number: it sees exactly the numbers listed in front -/
theorem anyOf_go_nums (d : Dec) (ns : List Dec) (rest : List Prm) (hrest : ∀ q, Prm.num q ∉ rest) :
    pureFunc.go (.dec d) (ns.map Prm.num ++ rest) = ns.any (fun q => cmp d q == .eq) := by
  induction ns with
  | nil =>
    cases rest with
    | nil => rfl
    -- `pureFunc.go.eq_k`: Lean's equation for the k-th arm of the `go` in the AnyOf arm of `pureFunc`, by position (1 `[]`, 2 a number
    -- against a number argument, 3 a number against any other argument, 4 any other input); an arm added to `go` renumbers them
    | cons p t => exact pureFunc.go.eq_3 p t d fun q h => hrest q (h ▸ List.mem_cons_self)
  | cons n ns ih =>
    rw [List.map_cons, List.cons_append, pureFunc.go.eq_2, List.any_cons, ih]
    cases cmp d n == .eq <;> rfl

theorem anyOf_dec (d : Dec) (ps : List Prm) :
    pureFunc "AnyOf" ps (.dec d) = some (okBool ((prmNumbers ps).any (fun q => cmp d q == .eq))) := by
  rw [pureFunc_AnyOf, prmAll, List.append_assoc, anyOf_go_nums d (prmNumbers ps) _ (by simp)]

theorem anyOf_dec_iff (d : Dec) (ps : List Prm) :
    pureFunc "AnyOf" ps (.dec d) = some (okBool true) ↔ ∃ q, Prm.num q ∈ ps ∧ d.toRat = q.toRat := by
  simp only [anyOf_dec, Option.some_inj, okBool_inj, List.any_eq_true, mem_prmNumbers, cmp_beq_eq]

theorem anyOf_go_other (v : GoVal) (hv : ∀ d, v ≠ .dec d) (ps : List Prm) :
    pureFunc.go v ps = ps.any (fun p => goEq v p) := by
  induction ps with
  | nil => rfl
  | cons p t ih =>
    rw [pureFunc.go.eq_4 v p t hv (fun d _ h _ => hv d h), List.any_cons, ← ih]
    cases goEq v p <;> rfl

theorem anyOf_str_iff (s : Bytes) (ps : List Prm) :
    pureFunc "AnyOf" ps (.str false s) = some (okBool true) ↔ Prm.str s ∈ ps := by
  have heq : ∀ p, goEq (.str false s) p = true ↔ .str s = p := by
    intro p
    cases p <;> simp [goEq]
  rw [pureFunc_AnyOf, anyOf_go_other _ (by simp), Option.some_inj, okBool_inj, List.any_eq_true]
  simp [heq, prmAll, mem_prmStrings]

#print axioms anyOf_dec_iff
#print axioms anyOf_str_iff
end Mp
