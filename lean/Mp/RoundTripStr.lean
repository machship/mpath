import Mp.RoundTripLex
import Mp.EscBridge
/-! C09 — a string literal through print, scan and unescape: what takes the round trip of `Mp/RoundTrip.lean` to calls with
    string arguments. -/
namespace Mp
open Esc

/-- the function that `Mp.escape` (Mp/Parse.lean) maps over the bytes, named so that the scanner lemmas can speak of one byte
    at a time -/
def escByte (c : UInt8) : Bytes :=
  if c == 34 then [92, 34] else if c == 7 then [92, 97] else if c == 8 then [92, 98] else if c == 12 then [92, 102]
  else if c == 10 then [92, 110] else if c == 13 then [92, 114] else if c == 9 then [92, 116] else if c == 11 then [92, 118] else [c]

theorem escape_cons (c : UInt8) (t : Bytes) : Mp.escape (c :: t) = escByte c ++ Mp.escape t := List.flatMap_cons

theorem escape_nil : Mp.escape [] = [] := rfl

/-- a byte of a literal body. No backslash: `Mp.escape` prints it as it stands, and the scanner would take it for the start
    of an escape -/
structure LitByte (b : UInt8) : Prop where
  asc : b.toNat < 128
  nz : b.toNat ≠ 0
  notBs : b ≠ 92

def Lit (s : Bytes) : Prop := ∀ b ∈ s, LitByte b

/-- the letters that follow the backslash in the printed text -/
def escLetters : List UInt8 := [34, 97, 98, 102, 110, 114, 116, 118]

theorem escByte_cases (c : UInt8) : (∃ x ∈ escLetters, escByte c = [92, x]) ∨ (c ≠ 34 ∧ c ≠ 10 ∧ escByte c = [c]) := by
  by_cases hm : c ∈ ([34, 7, 8, 12, 10, 13, 9, 11] : List UInt8)
  · revert c
    decide
  · simp only [List.mem_cons, List.not_mem_nil, or_false, not_or] at hm
    exact .inr ⟨hm.1, hm.2.2.2.2.1, by simp [escByte, hm]⟩

/-- `[97, 98, 102, 110, 114, 116, 118, 92, 34]`: what text/scanner accepts after a backslash inside `"…"` (`scanEscape_letter`) -/
theorem escLetters_spec : ∀ x ∈ escLetters, (x.toNat < 128 ∧ x.toNat ≠ 0) ∧
    (x.toNat : Int) ∈ [97, 98, 102, 110, 114, 116, 118, 92, 34] := by
  decide

theorem scanEscape_letter (s : Sc) (q : Int) (h : s.next.ch ∈ [97, 98, 102, 110, 114, 116, 118, 92, q]) :
    scanEscape s q = s.next.next := by
  unfold scanEscape
  simp only []
  rw [if_pos]
  simpa [or_assoc] using h

theorem asc_escByte (c : UInt8) (h : LitByte c) : Asc (escByte c) := by
  rcases escByte_cases c with ⟨x, hx, he⟩ | ⟨_, _, he⟩
  · simp [he, (escLetters_spec x hx).1]
  · simp [he, h.asc, h.nz]

theorem asc_escape (s : Bytes) (h : Lit s) : Asc (Mp.escape s) := fun b hb =>
  have ⟨c, hc, hbc⟩ := List.mem_flatMap.mp hb
  asc_escByte c (h c hc) b hbc

theorem escByte_length_pos (c : UInt8) : 1 ≤ (escByte c).length := by
  rcases escByte_cases c with ⟨x, _, he⟩ | ⟨_, _, he⟩ <;> simp [he]

theorem ch_ne {c d : UInt8} (h : c ≠ d) : ((c.toNat : Int) == (d.toNat : Int)) = false :=
  beq_eq_false_iff_ne.mpr fun e => h (UInt8.toNat_inj.mp (Int.ofNat_inj.mp e))

theorem stringLoop_plain (x : UInt8) (h34 : x ≠ 34) (h10 : x ≠ 10) (h92 : x ≠ 92) (tok : Bytes) (e : Nat)
    (rest : Bytes) (har : Asc rest) (f n : Nat) :
    scanStringLoop 34 (f + 1) (mkS tok e (x :: rest)) n = scanStringLoop 34 f (mkS (tok ++ [x]) e rest) (n + 1) := by
  have h34 : ((x.toNat : Int) == 34) = false := ch_ne h34
  have h10 : ((x.toNat : Int) == 10) = false := ch_ne h10
  have h92 : ((x.toNat : Int) == 92) = false := ch_ne h92
  have hneg : ¬ (x.toNat : Int) < 0 := by omega
  conv => lhs; unfold scanStringLoop
  simp only [mkS_ch, h34, h10, h92, hneg, decide_false, Bool.or_self, Bool.false_eq_true, if_false]
  rw [mkS_next tok e x rest har]

theorem stringLoop_esc (x : UInt8) (hx : x ∈ escLetters) (tok : Bytes) (e : Nat) (rest : Bytes) (har : Asc rest) (f n : Nat) :
    scanStringLoop 34 (f + 1) (mkS tok e (92 :: x :: rest)) n = scanStringLoop 34 f (mkS (tok ++ [92, x]) e rest) (n + 1) := by
  obtain ⟨hxa, hok⟩ := escLetters_spec x hx
  conv => lhs; unfold scanStringLoop
  have h1 : (((92 : UInt8).toNat : Int) == 34) = false := by decide
  have h2 : (((92 : UInt8).toNat : Int) == 92) = true := by decide
  simp only [mkS_ch, h1, h2, Bool.false_eq_true, if_false, if_true]
  have hn := mkS_next tok e 92 (x :: rest) (asc_cons.mpr ⟨hxa, har⟩)
  rw [scanEscape_letter _ _ (by rw [hn]; exact hok), hn, mkS_next (tok ++ [92]) e x rest har]
  simp

theorem stringLoop_step (c : UInt8) (hc : LitByte c) (tok : Bytes) (e : Nat) (rest : Bytes) (har : Asc rest) (f n : Nat) :
    scanStringLoop 34 (f + 1) (mkS tok e (escByte c ++ rest)) n = scanStringLoop 34 f (mkS (tok ++ escByte c) e rest) (n + 1) := by
  rcases escByte_cases c with ⟨x, hx, he⟩ | ⟨h34, h10, he⟩ <;> rw [he]
  · exact stringLoop_esc x hx tok e rest har f n
  · exact stringLoop_plain c h34 h10 hc.notBs tok e rest har f n

theorem stringLoop_body (s : Bytes) (tok : Bytes) (e : Nat) (rest : Bytes) (f n : Nat) (hl : Lit s) (har : Asc rest)
    (hf : (Mp.escape s).length < f) :
    scanStringLoop 34 f (mkS tok e (Mp.escape s ++ 34 :: rest)) n = (mkS (tok ++ Mp.escape s) e (34 :: rest), n + s.length) := by
  induction s generalizing tok f n with
  | nil =>
    obtain ⟨f, rfl, -⟩ := fuel_succ hf
    unfold scanStringLoop
    simp [escape_nil, mkS]
  | cons c t ih =>
    obtain ⟨f, rfl, -⟩ := fuel_succ hf
    obtain ⟨hc, hlt⟩ := List.forall_mem_cons.mp hl
    have har2 : Asc (Mp.escape t ++ 34 :: rest) := by simp [asc_escape t hlt, har]
    rw [escape_cons, List.append_assoc, stringLoop_step c hc tok e _ har2 f n,
      ih _ f _ hlt (by have := escByte_length_pos c; simp [escape_cons] at hf; omega)]
    simp [List.append_assoc]; omega

/-- C09: the printed literal of an ASCII string without a backslash is scanned as one string token, whose text is that literal -/
theorem scan_string (T : Tables) (s : Bytes) (st : Sc) (e : Nat) (rest : Bytes) (hl : Lit s) (har : Asc rest)
    (hprep : sxPrep st = mkS [] e (34 :: (Mp.escape s ++ 34 :: rest))) :
    scan T st = (.str, mkS (34 :: (Mp.escape s ++ [34])) e rest) := by
  have hbody : Asc (Mp.escape s ++ 34 :: rest) := by simp [asc_escape s hl, har]
  -- `+kernel`: see `punct_spec`
  have h34 : isIdentRune T ((34 : UInt8).toNat : Int) = false := not_ident_of_mem T (by decide +kernel)
  have hstr : (scanString (mkS [] e (34 :: (Mp.escape s ++ 34 :: rest))) 34).1 = mkS (34 :: Mp.escape s) e (34 :: rest) := by
    unfold scanString
    rw [mkS_next [] e 34 _ hbody, stringLoop_body s _ e rest _ 0 hl har (by simp; omega)]
    rfl
  refine scan_of_body T st (fun again => ?_) nofun
  rw [hprep]
  unfold sxBody
  simp only [mkS_ch, h34, hstr]
  rw [mkS_next _ e 34 rest har]
  simp

theorem stripQuotes_quoted (b : Bytes) : stripQuotes (34 :: (b ++ [34])) = b := by
  have hlast : (34 :: (b ++ [34])).getLast? = some 34 := by
    rw [← List.cons_append, List.getLast?_append]; simp
  simp [stripQuotes, hlast]

theorem noBad_of_lit (s : Bytes) (hl : Lit s) : NoBad (92 : UInt8) byteRules s := by
  induction s with
  | nil => trivial
  | cons x t ih =>
    cases t with
    | nil => trivial
    | cons y t' => exact ⟨fun h => (hl x List.mem_cons_self).notBs h.1, ih (fun b hb => hl b (List.mem_cons_of_mem _ hb))⟩

/-- C09: unquoting and unescaping that token text gives the string back -/
theorem unescape_token (s : Bytes) (hl : Lit s) : unescape (stripQuotes (34 :: (Mp.escape s ++ [34]))) = s := by
  rw [stripQuotes_quoted, unescape_eq_unescS, escape_eq]
  exact unesc_escape 92 byteRules byteRules_wf s (noBad_of_lit s hl)

#print axioms scan_string
#print axioms unescape_token
end Mp
