import Mp.Ast
/-! C15, "rejected as not available wherever in the query it is read": the walk of the blocked root fields over the whole operation.

    `CueValidate` hands the blocked list down through the `Validate` methods of opPath, opFilter, opLogicalOperation and opFunction,
    together with the cue path of the value the part is applied to. A path compares its first key with the list when that cue
    path is empty, i.e. when the path starts at the root: every `$` path does (the `$` resets the cue path), an `@` path does at
    the top level, in a top-level group, or in a filter / argument applied to the root itself. After its first key the cue path
    of a path is not empty, so filters and arguments further along are below the root.

    `chkTop` lists the keys that are compared (`chk`: checked), assuming the walk is not cut short by an earlier error, which
    rejects the query anyway; `unavailable blocked t`: some compared key is blocked. The driver evaluates it on the query text of
    every C15 case that reads a root field somewhere other than the head (mode cue, field `qh`). Core-only. -/
namespace Mp

mutual
/-- keys compared with the blocked list; `ctx` = the cue path handed to this path is empty -/
def chkPath (ctx : Bool) : PathOp → List Bytes
  | .mk _ root _ _ ops _ => chkParts (root || ctx) ops
def chkParts (atRoot : Bool) : List PathPart → List Bytes
  | [] => []
  | .ident name _ _ :: rest => (if atRoot then [name] else []) ++ chkParts false rest
  | .filter lo _ :: rest => chkLogic atRoot lo ++ chkParts atRoot rest
  | .func _ _ params _ :: rest => chkParams atRoot params ++ chkParts atRoot rest
def chkParams (atRoot : Bool) : List Param → List Bytes
  | [] => []
  | .path p :: rest => chkPath atRoot p ++ chkParams atRoot rest
  | .logic l :: rest => chkLogic atRoot l ++ chkParams atRoot rest
  | _ :: rest => chkParams atRoot rest
def chkLogic (atRoot : Bool) : LogicOp → List Bytes
  | .mk _ _ _ ops _ => chkLParts atRoot ops
def chkLParts (atRoot : Bool) : List LogicPart → List Bytes
  | [] => []
  | .path p :: rest => chkPath atRoot p ++ chkLParts atRoot rest
  | .logic l :: rest => chkLogic atRoot l ++ chkLParts atRoot rest
end

def chkTop : TopOp → List Bytes
  | .path p => chkPath true p
  | .logic l => chkLogic true l

def unavailable (blocked : List Bytes) (t : TopOp) : Bool := (chkTop t).any (fun k => blocked.contains k)

/-! ### the first keys of the `$` paths of an operation, wherever they stand (`dh`: dollar heads) -/
def firstKey : List PathPart → Option Bytes
  | [] => none
  | .ident name _ _ :: _ => some name
  | _ :: rest => firstKey rest

mutual
def dhPath : PathOp → List Bytes
  | .mk _ root _ _ ops _ => (if root then (firstKey ops).toList else []) ++ dhParts ops
def dhParts : List PathPart → List Bytes
  | [] => []
  | .ident _ _ _ :: rest => dhParts rest
  | .filter lo _ :: rest => dhLogic lo ++ dhParts rest
  | .func _ _ params _ :: rest => dhParams params ++ dhParts rest
def dhParams : List Param → List Bytes
  | [] => []
  | .path p :: rest => dhPath p ++ dhParams rest
  | .logic l :: rest => dhLogic l ++ dhParams rest
  | _ :: rest => dhParams rest
def dhLogic : LogicOp → List Bytes
  | .mk _ _ _ ops _ => dhLParts ops
def dhLParts : List LogicPart → List Bytes
  | [] => []
  | .path p :: rest => dhPath p ++ dhLParts rest
  | .logic l :: rest => dhLogic l ++ dhLParts rest
end

def dhTop : TopOp → List Bytes
  | .path p => dhPath p
  | .logic l => dhLogic l

/-- filters and calls in front of the first key do not change the cue path -/
theorem firstKey_checked : ∀ (ops : List PathPart) (k : Bytes), firstKey ops = some k → k ∈ chkParts true ops
  | .ident _ _ _ :: _, _, rfl => List.mem_cons_self
  | .filter _ _ :: rest, k, h | .func _ _ _ _ :: rest, k, h => List.mem_append_right _ (firstKey_checked rest k h)

theorem append_subset_append {α} {a a' b b' : List α} (ha : a ⊆ a') (hb : b ⊆ b') : a ++ b ⊆ a' ++ b' :=
  fun _ h => List.mem_append.2 ((List.mem_append.1 h).imp (@ha _) (@hb _))

/- `dhX x ⊆ chkX atRoot x`: both lists are sums over the same parts, and each summand of the first is included in the summand
   of the second -/
mutual
theorem dh_chk_path (ctx : Bool) (p : PathOp) : ∀ k, k ∈ dhPath p → k ∈ chkPath ctx p :=
  match p with
  | .mk _ false _ _ ops _ => dh_chk_parts ctx ops
  | .mk _ true _ _ ops _ => fun k h =>
    (List.mem_append.1 h).elim (fun h => firstKey_checked ops k (Option.mem_toList.1 h)) (dh_chk_parts true ops k)
termination_by structural p
theorem dh_chk_parts (atRoot : Bool) (ops : List PathPart) : ∀ k, k ∈ dhParts ops → k ∈ chkParts atRoot ops :=
  match ops with
  | [] => List.nil_subset _
  | .ident _ _ _ :: rest => List.subset_append_of_subset_right _ (dh_chk_parts false rest)
  | .filter lo _ :: rest => append_subset_append (dh_chk_logic atRoot lo) (dh_chk_parts atRoot rest)
  | .func _ _ ps _ :: rest => append_subset_append (dh_chk_params atRoot ps) (dh_chk_parts atRoot rest)
termination_by structural ops
theorem dh_chk_params (atRoot : Bool) (ps : List Param) : ∀ k, k ∈ dhParams ps → k ∈ chkParams atRoot ps :=
  match ps with
  | [] => List.nil_subset _
  | .path q :: rest => append_subset_append (dh_chk_path atRoot q) (dh_chk_params atRoot rest)
  | .logic l :: rest => append_subset_append (dh_chk_logic atRoot l) (dh_chk_params atRoot rest)
  | .num _ :: rest | .str _ :: rest | .bool _ :: rest => dh_chk_params atRoot rest
termination_by structural ps
theorem dh_chk_logic (atRoot : Bool) (l : LogicOp) : ∀ k, k ∈ dhLogic l → k ∈ chkLogic atRoot l :=
  match l with
  | .mk _ _ _ ops _ => dh_chk_lparts atRoot ops
termination_by structural l
theorem dh_chk_lparts (atRoot : Bool) (ops : List LogicPart) : ∀ k, k ∈ dhLParts ops → k ∈ chkLParts atRoot ops :=
  match ops with
  | [] => List.nil_subset _
  | .path q :: rest => append_subset_append (dh_chk_path atRoot q) (dh_chk_lparts atRoot rest)
  | .logic l :: rest => append_subset_append (dh_chk_logic atRoot l) (dh_chk_lparts atRoot rest)
termination_by structural ops
end

/-- C15: the first key of every `$` path of the operation, wherever the path stands, is compared with the blocked root fields -/
theorem dollar_heads_checked (t : TopOp) : ∀ k, k ∈ dhTop t → k ∈ chkTop t := by
  cases t with
  | path p => exact dh_chk_path true p
  | logic l => exact dh_chk_logic true l

theorem unavailable_iff (blocked : List Bytes) (t : TopOp) : unavailable blocked t = true ↔ ∃ k, k ∈ chkTop t ∧ k ∈ blocked := by
  simp [unavailable]

/-- C15: a blocked root field read by a `$` path anywhere in the query makes the query unavailable -/
theorem rejected_wherever (blocked : List Bytes) (t : TopOp) (k : Bytes) (hk : k ∈ dhTop t) (hb : k ∈ blocked) :
    unavailable blocked t = true :=
  (unavailable_iff blocked t).2 ⟨k, dollar_heads_checked t k hk, hb⟩

/-- a top-level `@` path (or an `@` operand of a top-level group) starts at the root like a `$` path: its first key is compared -/
theorem top_at_head_checked (i f m : Bool) (ops : List PathPart) (us k : Bytes) (h : firstKey ops = some k) :
    k ∈ chkTop (.path (.mk i false f m ops us)) :=
  firstKey_checked ops k h

theorem top_group_at_head_checked (i f i' f' m : Bool) (ty : Bytes) (ops : List PathPart) (us us' k : Bytes) (rest : List LogicPart)
    (h : firstKey ops = some k) : k ∈ chkTop (.logic (.mk i f ty (.path (.mk i' false f' m ops us) :: rest) us')) :=
  List.mem_append_left _ (firstKey_checked ops k h)

/-- below the root nothing is compared until a `$` path starts -/
theorem below_root_keys_not_checked : ∀ (ops : List PathPart), (∀ op ∈ ops, ∃ n pr us, op = .ident n pr us) → chkParts false ops = []
  | [], _ => rfl
  | op :: rest, h => by
    obtain ⟨⟨n, pr, us, rfl⟩, hr⟩ := List.forall_mem_cons.1 h
    exact below_root_keys_not_checked rest hr

theorem only_first_key_checked (n : Bytes) (pr : Bool) (us : Bytes) (rest : List PathPart)
    (h : ∀ op ∈ rest, ∃ n pr us, op = .ident n pr us) : chkParts true (.ident n pr us :: rest) = [n] := by
  simp [chkParts, below_root_keys_not_checked rest h]

/-- `$.i.t[@.v.E($.s2.n)]`: the read of `s2` inside the argument of a call inside a filter is compared; `v`, the element key, is not -/
example :
    let inner : PathOp := .mk false true false false [.ident [115, 50] false [], .ident [110] false []] []
    let cond : PathOp := .mk false false true false [.ident [118] false [], .func false [69] [.path inner] []] []
    let q : TopOp := .path (.mk false true false false
      [.ident [105] false [], .ident [116] false [], .filter (.mk false true [] [.path cond] []) []] [])
    chkTop q = [[105], [115, 50]] ∧ unavailable [[115, 50]] q = true ∧ unavailable [[118]] q = false := by
  decide

end Mp
