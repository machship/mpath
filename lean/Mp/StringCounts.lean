import Mp.StringFuncs
/-! C18 — Left / Right / TrimLeft / TrimRight with the count at any scale. Core-only. -/
namespace Mp

/-- the count is a number, whatever decimal represents it (`IsIndex`, `Mp/IndexProofs.lean`) -/
theorem stringPart_repr_independent (s : Bytes) (d d' : Dec) (k : Nat) (hd : IsIndex d k) (hd' : IsIndex d' k) (hk : k < 2147483647)
    (nm : String) (hn : nm ∈ ["Left", "Right", "TrimLeft", "TrimRight"]) :
    pureFunc nm [.num d] (.str false s) = pureFunc nm [.num d'] (.str false s) := by
  -- one goal per listed name; `simp` opens each by its equation (PureFuncEqs), and both sides are `stringPart_of` at `k`
  revert nm
  simp [stringPart_of s _ k hd hk, stringPart_of s _ k hd' hk]

theorem left_take_scaled (s : Bytes) (k sc : Nat) (hk : k < 2147483647) :
    pureFunc "Left" [.num ⟨((k * 10 ^ sc : Nat) : Int), -(sc : Int)⟩] (.str false s) = pureFunc "Left" [.num ⟨k, 0⟩] (.str false s) :=
  stringPart_repr_independent s _ _ k (isIndex_scaled k sc (by omega)) (isIndex_nat k (by omega)) hk _ (by simp)

theorem right_drop_scaled (s : Bytes) (k sc : Nat) (hk : k < 2147483647) :
    pureFunc "Right" [.num ⟨((k * 10 ^ sc : Nat) : Int), -(sc : Int)⟩] (.str false s) = pureFunc "Right" [.num ⟨k, 0⟩] (.str false s) :=
  stringPart_repr_independent s _ _ k (isIndex_scaled k sc (by omega)) (isIndex_nat k (by omega)) hk _ (by simp)

theorem trimLeft_scaled (s : Bytes) (k sc : Nat) (hk : k < 2147483647) :
    pureFunc "TrimLeft" [.num ⟨((k * 10 ^ sc : Nat) : Int), -(sc : Int)⟩] (.str false s) = pureFunc "TrimLeft" [.num ⟨k, 0⟩] (.str false s) :=
  stringPart_repr_independent s _ _ k (isIndex_scaled k sc (by omega)) (isIndex_nat k (by omega)) hk _ (by simp)

theorem trimRight_scaled (s : Bytes) (k sc : Nat) (hk : k < 2147483647) :
    pureFunc "TrimRight" [.num ⟨((k * 10 ^ sc : Nat) : Int), -(sc : Int)⟩] (.str false s) = pureFunc "TrimRight" [.num ⟨k, 0⟩] (.str false s) :=
  stringPart_repr_independent s _ _ k (isIndex_scaled k sc (by omega)) (isIndex_nat k (by omega)) hk _ (by simp)

#print axioms left_take_scaled
#print axioms right_drop_scaled
#print axioms trimLeft_scaled
#print axioms trimRight_scaled
end Mp
