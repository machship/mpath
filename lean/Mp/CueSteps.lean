import Mp.CueProofs
/-! C13: the validator's path loop with element steps: after `First()`, `Last()` or `Index(i)` on a typed list the loop goes on
    with the element type (Array becomes Single, the schema position stays), and the next key is resolved from the root through
    the list into the element (`stepKey` on a list looks the key up in the element type). Core-only. -/
namespace Mp

theorem validateSteps_keys (root : CTy) (blocked : List String) : ∀ (ks p : List String) (cur : Option (String × String)) (first : Bool),
    validateSteps root blocked (ks.map .key) p cur first = validateKeys root blocked ks p cur first := by
  intro ks
  induction ks with
  | nil => intro p cur first; simp only [List.map_nil, validateSteps, validateKeys]
  | cons k ks ih => intro p cur first; simp only [List.map_cons, validateSteps, validateKeys, ih]

/-- the specification: walk the schema one step at a time; `e` = the position is an element of the list `v` -/
def specWalkS : CTy → Bool → List Step → VRes
  | v, e, [] => match kindOf v with
    | some (t, io) => .acc t (if e then "Single" else io)
    | none => .rej "other"
  | v, e, .elem :: ss => match kindOf v with
    | some (_, io) => if io == "Array" && !e then specWalkS v true ss else .rej "other"
    | none => .rej "other"
  | v, e, .cond k :: ss => match kindOf v with
    | some (_, io) =>
      if io == "Array" && !e then
        (match stepKey v k with
         | none => .rej "notfound"
         | some w => match kindOf w with
           | none => .rej "other"
           | some _ => specWalkS v false ss)
      else .rej "other"
    | none => .rej "other"
  | v, e, .key k :: ss =>
    match kindOf v with
    | none => .rej "other"
    | some (t, io) =>
      let io' := if e then "Single" else io
      if io' == "Single" && isPrimitive t then .rej "primitive"
      else if io' == "Array" then .rej "array"
      else match stepKey v k with
        | none => .rej "notfound"
        | some w => specWalkS w false ss

theorem specWalkS_kind_none {v : CTy} (h : kindOf v = none) (e : Bool) (ss : List Step) : specWalkS v e ss = .rej "other" := by
  cases ss with
  | nil => simp [specWalkS, h]
  | cons s ss => cases s <;> simp [specWalkS, h]

/-- C13 with element steps: the loop computes the plain recursive walk `specWalkS` of the schema -/
theorem validate_walk_from (root : CTy) : ∀ (ss : List Step) (p : List String) (w : CTy) (t io : String) (e : Bool),
    findValueAtPath root p = some w → kindOf w = some (t, io) →
    validateSteps root [] ss p (some (t, if e then "Single" else io)) false = specWalkS w e ss := by
  intro ss
  induction ss with
  | nil => intro p w t io e _ hk; simp [validateSteps, specWalkS, hk]
  | cons s ss ih =>
    intro p w t io e hp hk
    -- the loop carries "Single" (a single value, or an element of a list) and the walk's list test fails, or the position is a list
    have hpos : ((if e then "Single" else io) = "Single" ∧ (io == "Array" && !e) = false) ∨ (e = false ∧ io = "Array") := by
      cases e with
      | true => exact Or.inl ⟨rfl, by simp⟩
      | false => exact (kindOf_io w t io hk).imp (by rintro rfl; exact ⟨rfl, rfl⟩) (⟨rfl, ·⟩)
    -- the next key is resolved from the root: one more step from `w`
    have hstep : ∀ k, findValueAtPath root (p ++ [k]) = stepKey w k := fun k => by rw [fvp_snoc, hp]; rfl
    rcases hpos with ⟨hcur, hlist⟩ | ⟨rfl, rfl⟩
    · cases s with
      | elem | cond k => simp [validateSteps, specWalkS, hk, hcur, hlist]
      | key k =>
        simp only [validateSteps, specWalkS, hk, hstep, hcur]
        cases isPrimitive t
        · cases hs : stepKey w k with
          | none => simp
          | some w' =>
            cases hk' : kindOf w' with
            | none => simp [hk', specWalkS_kind_none hk']
            | some ti => simpa [hk'] using ih (p ++ [k]) w' ti.1 ti.2 false (by rw [hstep, hs]) hk'
        · simp
    · cases s with
      | elem => simpa [validateSteps, specWalkS, hk] using ih p w t "Array" true hp hk
      | cond k =>
        have ih' := ih p w t "Array" false hp hk
        simp only [Bool.false_eq_true, if_false] at ih'
        simp [validateSteps, specWalkS, hk, hstep, ih']
        -- the two sides print alike: the same cases on `stepKey w k`, by the loop's matcher on the left and `specWalkS`'s on the right
        rfl
      | key k => simp [validateSteps, specWalkS, hk]

/-- `validate_walk_from` with a hypothesis it does not need: an element position is a position in a list -/
theorem validate_walk_steps (root : CTy) : ∀ (ss : List Step) (p : List String) (w : CTy) (t io : String) (e : Bool),
    findValueAtPath root p = some w → kindOf w = some (t, io) → (e = true → io = "Array") →
    validateSteps root [] ss p (some (t, if e then "Single" else io)) false = specWalkS w e ss :=
  fun ss p w t io e hp hk _ => validate_walk_from root ss p w t io e hp hk

/-! The closing `rfl`s of the next identify the `match` of `specWalkS` with that of `specWalk`: same cases, two matchers. -/
theorem specWalkS_keys : ∀ (ks : List String) (v : CTy), specWalkS v false (ks.map .key) = specWalk v ks := by
  intro ks
  induction ks with
  | nil =>
    intro v
    simp only [List.map_nil, specWalkS, specWalk, Bool.false_eq_true, if_false]
    rfl
  | cons k ks ih =>
    intro v
    simp only [List.map_cons, specWalkS, specWalk, Bool.false_eq_true, if_false, ih]
    rfl

/-- C13 on key-only paths: the loop, which re-resolves the whole path from the root at every key and carries the previous type
    along, computes the plain recursive walk of the schema -/
theorem validate_walk (root : CTy) : ∀ (ks p : List String) (w : CTy) (t io : String),
    findValueAtPath root p = some w → kindOf w = some (t, io) →
    validateKeys root [] ks p (some (t, io)) false = specWalk w ks := by
  intro ks p w t io hp hk
  rw [← validateSteps_keys, ← specWalkS_keys]
  exact validate_walk_from root (ks.map .key) p w t io false hp hk

/-- after `First()` on a list of structs: a declared field of the element, an undeclared one, and the key without the element step -/
example : specWalkS (.struct false [.mk "objs" .reg false false (.list true (.struct false [.mk "name" .reg false false (.prim "string")]))]) false
    [.key "objs", .elem, .key "name"] = .acc "String" "Single" := by decide +kernel
example : specWalkS (.struct false [.mk "objs" .reg false false (.list true (.struct false [.mk "name" .reg false false (.prim "string")]))]) false
    [.key "objs", .elem, .key "nosuch"] = .rej "notfound" := by decide +kernel
example : specWalkS (.struct false [.mk "objs" .reg false false (.list true (.struct false [.mk "name" .reg false false (.prim "string")]))]) false
    [.key "objs", .key "name"] = .rej "array" := by decide +kernel

/-- C15 / C13: only the first key of a path meets the blocked root fields: once a key has been taken (`first = false`) the
    blocked list plays no part, so a field below the root named like a blocked one is a field like any other -/
theorem blocked_only_first_key (root : CTy) (b1 b2 : List String) : ∀ (ss : List Step) (p : List String) (cur : Option (String × String)),
    validateSteps root b1 ss p cur false = validateSteps root b2 ss p cur false := by
  intro ss
  induction ss with
  | nil => intro p cur; simp only [validateSteps]
  | cons s ss ih =>
    intro p cur
    cases s <;> simp only [validateSteps, Bool.false_and, Bool.false_eq_true, if_false, ih]

/-- … and a blocked first key is rejected as not available whatever follows (the test comes before the key is looked up);
    `blocked_first_key_rejected` (`Mp/CueDeps.lean`) is the same for `validateKeys` -/
theorem first_key_blocked (root : CTy) (b : List String) (k : String) (ss : List Step) (h : b.contains k = true) :
    validateSteps root b (.key k :: ss) [] none true = .rej "blocked" := by
  simp only [validateSteps, h, Bool.and_self, if_true]

#print axioms blocked_only_first_key
#print axioms first_key_blocked
#print axioms validate_walk_steps
#print axioms validate_walk
#print axioms validateSteps_keys
#print axioms specWalkS_keys
end Mp
