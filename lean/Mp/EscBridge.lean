import Mp.EscProofs
import Mp.Parse
/-! C09 — the escape / unescape functions of the parser/printer model (the ones compared with the Go code on every run) are
    the abstract functions of `Mp.EscProofs` at bytes and the rule table of opFunction.go. Core-only. -/
namespace Mp
open Esc

theorem replace2_eq_pass (a : UInt8) : replace2 a = pass a := by
  funext c o l
  fun_induction pass a c o l with
  | case1 => rfl
  | case2 x => rfl
  | case3 x y t h ih => rw [replace2, ih, if_pos (by simpa using h)]
  | case4 x y t h ih => rw [replace2, ih, if_neg (by simpa using h)]

/-- `unescapeRules` of Mp/Parse.lean: pairs (pattern letter, output byte) -/
def byteRules : List (UInt8 × UInt8) := unescapeRules

theorem byteRules_indep : byteRules.Pairwise Indep := by decide
theorem byteRules_bs : ∀ r ∈ byteRules, r.1 ≠ 92 ∧ r.2 ≠ 92 := by decide
theorem byteRules_wf : WF (92 : UInt8) byteRules := wf_of_table (by decide) (by decide) (by decide)

theorem unescape_eq_unescS (s : Bytes) : unescape s = unescS (92 : UInt8) byteRules s := by
  rw [← foldr_pass_eq_sim 92 byteRules unescapeRules.reverse (List.reverse_perm _).symm byteRules_bs byteRules_indep s,
    ← replace2_eq_pass, List.foldr_reverse]
  rfl

theorem escape_eq (s : Bytes) : Mp.escape s = Esc.escape (92 : UInt8) byteRules s := by
  induction s with
  | nil => rfl
  | cons c t ih =>
    rw [Esc.escape, ← ih]
    simp only [Mp.escape, List.flatMap_cons, byteRules, unescapeRules, escChar_cons, escChar_nil, beq_iff_eq]

/-- C09 on the model's own functions: the value of a parsed string literal survives printing and parsing again, for every
    byte string `b` (the body of any string token) -/
theorem model_literal_roundtrip (b : Bytes) : unescape (Mp.escape (unescape b)) = unescape b := by
  rw [unescape_eq_unescS, escape_eq, unescape_eq_unescS]
  exact literal_roundtrip 92 byteRules byteRules_wf b

/-- C09 / C11: the Go code ranges over a map; the eight replacements in any order give the model's `unescape` -/
theorem model_unescape_order_independent (T : List (UInt8 × UInt8)) (hp : byteRules.Perm T) (s : Bytes) :
    T.foldr (fun r acc => replace2 92 r.1 r.2 acc) s = unescape s := by
  rw [unescape_eq_unescS, replace2_eq_pass]
  exact foldr_pass_eq_sim 92 byteRules T hp byteRules_bs byteRules_indep s

#print axioms model_literal_roundtrip
#print axioms model_unescape_order_independent
end Mp
