import Mp.Lex
import Mp.Generated.Unicode
/-! strings.EqualFold, unicode.IsPrint and unicode.IsSpace over the tables of the running Go (regenerated on every run into
    Mp/Generated/Unicode.lean). Core-only. -/
namespace Mp

/-- binary search in an array of pairs sorted by their first component -/
def bsearchFst (a : Array (Nat × Nat)) (r : Nat) : Option (Nat × Nat) :=
  let rec go (lo hi : Nat) (fuel : Nat) : Option (Nat × Nat) :=
    match fuel with
    | 0 => none
    | f + 1 =>
      if lo ≥ hi then none else
      let mid := (lo + hi) / 2
      match a[mid]? with
      | none => none
      | some p => if p.1 == r then some p else if p.1 < r then go (mid + 1) hi f else go lo mid f
  go 0 a.size 64

/-- the greatest range starting at or before `r` (ranges sorted by start) contains `r` -/
def inRanges (a : Array (Nat × Nat)) (r : Nat) : Bool :=
  let rec go (lo hi : Nat) (fuel : Nat) : Bool :=
    match fuel with
    | 0 => false
    | f + 1 =>
      if lo ≥ hi then false else
      let mid := (lo + hi) / 2
      match a[mid]? with
      | none => false
      | some p => if p.1 ≤ r && r ≤ p.2 then true else if p.2 < r then go (mid + 1) hi f else go lo mid f
  go 0 a.size 64

/-- unicode.SimpleFold -/
def simpleFold (r : Nat) : Nat := match bsearchFst Generated.foldPairs r with | some p => p.2 | none => r

/-- the rune comparison of strings.EqualFold -/
def runeEqFold (a b : Nat) : Bool :=
  if a == b then true else
  let sr := if a < b then a else b
  let tr := if a < b then b else a
  if tr < 0x80 then (65 ≤ sr && sr ≤ 90 && tr == sr + 32) else
  let rec walk (r : Nat) (fuel : Nat) : Nat :=
    match fuel with
    | 0 => r
    | f + 1 => if r != sr && r < tr then walk (simpleFold r) f else r
  walk (simpleFold sr) 8 == tr

/-- the runes of a Go string, as `for range` / utf8.DecodeRuneInString yield them (an invalid byte is U+FFFD, width 1) -/
def decodeRunes : Nat → Bytes → List Nat
  | 0, _ => []
  | _ + 1, [] => []
  | f + 1, p => let (r, w, _) := decodeRune p; r :: decodeRunes f (p.drop (max w 1))

def allEqFold : List Nat → List Nat → Bool
  | [], [] => true
  | x :: xs, y :: ys => runeEqFold x y && allEqFold xs ys
  | _, _ => false

/-- strings.EqualFold -/
def equalFoldU (a b : Bytes) : Bool := allEqFold (decodeRunes a.length a) (decodeRunes b.length b)

theorem runeEqFold_refl (a : Nat) : runeEqFold a a = true := by simp [runeEqFold]
theorem allEqFold_refl (l : List Nat) : allEqFold l l = true := by
  induction l with
  | nil => rfl
  | cons x xs ih => simp [allEqFold, runeEqFold_refl, ih]

/-- the Unicode tables of the running Go -/
def goTables : Tables where
  isPrint r := inRanges Generated.printRanges r
  isSpace r := Generated.spaceRunes.contains r

end Mp
