import Mp.BytesOrd
import Mp.PermProofs
/-! C11 bridge — the concrete `findMapKey` of the evaluator model is the abstract `findKey` instantiated with
    bytewise `<`, `==` and `EqualFold`. Core-only. -/
namespace Mp

theorem bytesLt_ord : PermP.Ord bytesLt := ⟨bytesLt_strict.irrefl, bytesLt_strict.trans, bytesLt_strict.total⟩

theorem findMapKey_eq (keys : List Bytes) (vals : List GoVal) (name : Bytes) :
    findMapKey keys vals name =
      (PermP.findKey bytesLt (fun k => k == name) (fun k => equalFold k name && !k.isEmpty) (keys.zip vals)).map (fun p => p.2) := by
  unfold findMapKey PermP.findKey
  simp only []
  cases (keys.zip vals).find? (fun p => p.1 == name) with
  | some p => rfl
  | none => cases (keys.zip vals).filter (fun p => equalFold p.1 name && !p.1.isEmpty) <;> rfl

/-- C11 on the model's own lookup: two listings of the same map entries (any two iteration orders) give the same value -/
theorem findMapKey_order_independent (keys keys' : List Bytes) (vals vals' : List GoVal) (name : Bytes)
    (hp : (keys.zip vals).Perm (keys'.zip vals'))
    (hd : (keys.zip vals).Pairwise (fun a b => a.1 ≠ b.1)) :
    findMapKey keys vals name = findMapKey keys' vals' name := by
  rw [findMapKey_eq, findMapKey_eq, PermP.findKey_perm bytesLt (fun k => k == name) (fun k => equalFold k name && !k.isEmpty)
    bytesLt_ord _ _ hp hd (fun _ _ ha hb => (eq_of_beq ha).trans (eq_of_beq hb).symm)]

#print axioms findMapKey_order_independent
end Mp
