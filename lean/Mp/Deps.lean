/-! C15: the work-list loop of cue.go over `_dependencies` with a visited set. Each round shortens the queue or visits a name of
    the finite universe `U` for the first time, so it ends on cyclic graphs too. A specification, not run against the Go code:
    `closure_bridge` (`Mp/CueDeps.lean`) ties the fuel-driven `Mp.closure` of the validator model to it. Core-only. -/
namespace Deps
abbrev Name := String

def cnt (visited : List Name) : List Name → Nat
  | [] => 0
  | x :: xs => (if visited.contains x then 0 else 1) + cnt visited xs

theorem cnt_eq (visited l : List Name) : cnt visited l = (l.filter (fun x => !visited.contains x)).length := by
  induction l with
  | nil => rfl
  | cons x xs ih => by_cases h : x ∈ visited <;> simp [cnt, ih, h, Nat.add_comm]

theorem cnt_lt (visited : List Name) (d : Name) (l : List Name) (hU : d ∈ l) (hv : visited.contains d = false) :
    cnt (d :: visited) l < cnt visited l := by
  have hf : (fun x => !(d :: visited).contains x) = fun x => x != d && !visited.contains x :=
    funext fun x => by rw [List.contains_cons, Bool.not_or]; rfl
  rw [cnt_eq, cnt_eq, hf, ← List.filter_filter]
  exact List.length_filter_lt_length_iff_exists.2 ⟨d, List.mem_filter.2 ⟨hU, by rw [hv]; rfl⟩, by simp⟩

structure Graph where
  U    : List Name
  deps : Name → Option (List Name)
  closed : ∀ n, (deps n).isSome → n ∈ U

def closure (g : Graph) (queue visited : List Name) : Except String (List Name) :=
  match queue with
  | [] => .ok visited
  | d :: q =>
    if hv : visited.contains d then closure g q visited
    else
      match hd : g.deps d with
      | none => .error s!"failed to find dependency {d}"
      | some nx => closure g (q ++ nx) (d :: visited)
termination_by (cnt visited g.U, queue.length)
decreasing_by
  · apply Prod.Lex.right; simp
  · apply Prod.Lex.left
    exact cnt_lt visited d g.U (g.closed d (by simp [hd])) (by simpa using hv)

/-- a graph with cycles (a ⇄ b, c → c) -/
def g1 : Graph := ⟨["a","b","c"], fun n => if n = "a" then some ["b"] else if n = "b" then some ["a","c"] else if n = "c" then some ["c"] else none, by
  intro n; split <;> try split <;> try split
  all_goals simp_all⟩
#eval closure g1 ["a"] []

inductive Reach (g : Graph) : Name → Name → Prop
  | refl (a) : Reach g a a
  | step {a b c} (nx) : g.deps a = some nx → b ∈ nx → Reach g b c → Reach g a c

theorem closure_nil (g : Graph) (v : List Name) : closure g [] v = .ok v := by rw [closure]

theorem closure_cons (g : Graph) (d : Name) (q v : List Name) : closure g (d :: q) v =
    if v.contains d then closure g q v else
      match g.deps d with
      | none => .error s!"failed to find dependency {d}"
      | some nx => closure g (q ++ nx) (d :: v) := by
  rw [closure]
  split
  · rfl
  · split <;> simp only [*]

theorem closure_spec (g : Graph) (queue visited res : List Name) (h : closure g queue visited = .ok res) :
    (∀ v ∈ visited, v ∈ res) ∧ (∀ q ∈ queue, q ∈ res) ∧
    ∀ x ∈ res, x ∈ visited ∨ (∃ q ∈ queue, Reach g q x) ∧ ∀ nx, g.deps x = some nx → ∀ y ∈ nx, y ∈ res := by
  fun_induction closure g queue visited with
  | case1 visited => cases h; exact ⟨fun _ hv => hv, nofun, fun _ hx => .inl hx⟩
  | case2 visited d q hv ih =>
    obtain ⟨a, b, c⟩ := ih h
    exact ⟨a, List.forall_mem_cons.2 ⟨a d (by simpa using hv), b⟩, fun x hx =>
      (c x hx).imp_right (.imp_left fun ⟨q', hq', hr⟩ => ⟨q', List.mem_cons_of_mem _ hq', hr⟩)⟩
  | case3 => cases h
  | case4 visited d q hv nx hd ih =>
    obtain ⟨a, b, c⟩ := ih h
    refine ⟨fun v hv' => a v (List.mem_cons_of_mem _ hv'),
      List.forall_mem_cons.2 ⟨a d List.mem_cons_self, fun x hx => b x (List.mem_append_left _ hx)⟩, fun x hx => ?_⟩
    rcases c x hx with hm | ⟨⟨q', hq', hr⟩, hc⟩
    · rcases List.mem_cons.mp hm with rfl | hm
      · -- the name visited in this round: its successors were queued
        refine .inr ⟨⟨x, List.mem_cons_self, .refl x⟩, fun nx' hd' y hy => ?_⟩
        cases hd.symm.trans hd'
        exact b y (List.mem_append_right _ hy)
      · exact .inl hm
    · refine .inr ⟨?_, hc⟩
      rcases List.mem_append.mp hq' with h3 | h3
      · exact ⟨q', List.mem_cons_of_mem _ h3, hr⟩
      · exact ⟨d, List.mem_cons_self, .step nx hd h3 hr⟩

theorem closure_sound (g : Graph) : ∀ (queue visited res : List Name),
    closure g queue visited = .ok res →
    ∀ x ∈ res, x ∈ visited ∨ ∃ q ∈ queue, Reach g q x :=
  fun queue visited res h x hx => ((closure_spec g queue visited res h).2.2 x hx).imp_right And.left

theorem Reach.least {g : Graph} {S : List Name} (hS : ∀ v ∈ S, ∀ nx, g.deps v = some nx → ∀ y ∈ nx, y ∈ S) {s x : Name}
    (hr : Reach g s x) (hs : s ∈ S) : x ∈ S := by
  induction hr with
  | refl => exact hs
  | step nx hd hy _ ih => exact ih (hS _ hs nx hd _ hy)

theorem closure_complete (g : Graph) (start res : List Name) (h : closure g start [] = .ok res) :
    ∀ s ∈ start, ∀ x, Reach g s x → x ∈ res := by
  obtain ⟨-, hb, hc⟩ := closure_spec g start [] res h
  exact fun s hs x hr => hr.least (fun v hv => ((hc v hv).resolve_left List.not_mem_nil).2) (hb s hs)

/-- C15: the loop returns exactly the set reachable from the start set -/
theorem closure_exact (g : Graph) (start res : List Name) (h : closure g start [] = .ok res) (x : Name) :
    x ∈ res ↔ ∃ s ∈ start, Reach g s x :=
  ⟨fun hx => (closure_sound g start [] res h x hx).resolve_left List.not_mem_nil,
    fun ⟨s, hs, hr⟩ => closure_complete g start res h s hs x hr⟩

#print axioms closure
#print axioms closure_sound
#print axioms closure_exact
end Deps
