import Mp.JsonDoc
import Mp.PureFuncEqs
import Mp.NumeralProofs
/-! C10 ∘ C01: the statement of C01, transported through ParseJSON. Core-only. -/
namespace Mp.GoJson
open Mp.L2 (Doc pathSpec idents)

theorem parseJSON_name : String.fromUTF8! (ByteArray.mk (str "ParseJSON").toArray) = "ParseJSON" := by decide +kernel
theorem parseJSON_known : knownFuncs.contains "ParseJSON" = true := by decide +kernel

theorem sPart_parseJSON (text : Bytes) (orig : GoVal) (hne : text.isEmpty = false) (hnum : Dec.ofString text = none) :
    sPart (.func (str "ParseJSON") [] .none) (.str false text) orig =
      (match unmarshalObject text with | none => .unmodelled | some none => .err | some (some m) => .ok m) := by
  have hrecv : toDecimalIfNumber (objectAsMap (normalizeValue (.str false text))) = .str false text := toDecimalIfNumber_str hnum
  unfold sPart
  simp only [isBadSel, Bool.false_eq_true, if_false, sParams, hrecv, parseJSON_name, parseJSON_known, Bool.not_true,
    pureFunc_ParseJSON_str hne]
  rfl  -- the two matches have the same cases but are two matchers

/-- the text of an object is not a numeral: it has a `{` (123) in it -/
theorem render_obj_not_numeral (kvs : List (Bytes × J)) : Dec.ofString (render (.obj kvs)) = none :=
  Dec.not_numeral_of_foreign_byte _ 123 (by rcases kvs with _ | ⟨⟨k, v⟩, kvs⟩ <;> simp [render]) (by simp [Dec.NumByte])

/-- C10 ∘ C01: `$.t.ParseJSON().k1.….kn` on `{t: <the JSON text of d>}` is `pathSpec [k1,…,kn] d`, for paths of any length and
    documents of any size (number-free, distinct keys, strings that need no escape). -/
theorem parseJSON_path (t : Bytes) (ks : List Bytes) (vs : List Doc) (kp : List Bytes)
    (hwf : WF (.obj ks vs)) (hg : L2.Good (.obj ks vs)) :
    sPath (.mk true false (.ident t false :: .func (str "ParseJSON") [] .none :: idents kp))
        (.map .str false [t] [.str false (render (ofDoc (.obj ks vs)))]) (.map .str false [t] [.str false (render (ofDoc (.obj ks vs)))]) =
      match pathSpec kp (.obj ks vs) with | some v => .ok (L2.render v) | none => .knf := by
  generalize hD : GoVal.map .str false [t] [.str false (render (ofDoc (.obj ks vs)))] = D
  have hident : identDo t D = .ok (.str false (render (ofDoc (.obj ks vs)))) := by
    subst hD
    simp [identDo_map, findMapKey, numberKindsToDecimal_of_kind, GoVal.kind]
  have hfunc : sPart (.func (str "ParseJSON") [] .none) (.str false (render (ofDoc (.obj ks vs)))) D = .ok (L2.render (.obj ks vs)) := by
    rw [sPart_parseJSON (render (ofDoc (.obj ks vs))) D (render_obj_isEmpty _) (render_obj_not_numeral _), parseJSON_of_document ks vs hwf]
  unfold sPath
  simp only [Bool.and_false, Bool.false_eq_true, if_false, if_true]
  unfold sParts
  simp only [sPart_ident, Option.isSome_none, Bool.false_and, Bool.false_eq_true, if_false, hident]
  unfold sParts
  simp only [Option.isSome_some, Option.getD_some, Bool.not_true, Bool.and_false, Bool.false_eq_true, if_false, hfunc]
  exact L2.parts_refine L2.mapCarrier D kp (.obj ks vs) _ _ hg nofun

/-- `parseJSON_path` with two hypotheses it does not need: the path is not empty, the text is not a numeral -/
theorem parseJSON_then_path (t : Bytes) (ks : List Bytes) (vs : List Doc) (kp : List Bytes)
    (hwf : WF (.obj ks vs)) (hg : L2.Good (.obj ks vs)) (hkp : kp ≠ [])
    (hnum : Dec.ofString (render (ofDoc (.obj ks vs))) = none) :
    sPath (.mk true false (.ident t false :: .func (str "ParseJSON") [] .none :: idents kp))
        (.map .str false [t] [.str false (render (ofDoc (.obj ks vs)))]) (.map .str false [t] [.str false (render (ofDoc (.obj ks vs)))]) =
      match pathSpec kp (.obj ks vs) with | some v => .ok (L2.render v) | none => .knf :=
  parseJSON_path t ks vs kp hwf hg

/-- non-vacuity: `$.t.ParseJSON().l.K` on `{t: "{\"l\":[{\"k\":\"a\"},{\"z\":true},{\"K\":null}]}"}` -/
def exJ : Doc := .obj [[108]] [.arr [.obj [[107]] [.str [97]], .obj [[122]] [.bool true], .obj [[75]] [.null]]]
example : pathSpec [[108], [75]] exJ = some (.arr [.str [97], .null]) := by rfl
example : WF exJ := by
  simp only [exJ, WF, WFs, Safe, SafeByte]
  exact ⟨by decide, by decide, by decide, by decide⟩
example : Dec.ofString (render (ofDoc exJ)) = none := by decide
example : L2.Good exJ := by
  unfold exJ
  apply L2.good_single _ _ (by simp)
  apply L2.Good.arr
  intro x hx
  simp at hx
  rcases hx with h | h | h <;> subst h
  · exact L2.good_single _ _ (by simp) (L2.Good.str _ (by decide))
  · exact L2.good_single _ _ (by simp) (L2.Good.bool _)
  · exact L2.good_single _ _ (by simp) L2.Good.null

#print axioms parseJSON_then_path
#print axioms sPart_parseJSON
end Mp.GoJson
