import Mp.PureFuncEqs
/-! C14 (soundness half): a function whose descriptor says it returns Boolean / Number / String returns a value of that kind
    or an error, on every receiver and every argument list. Core-only. -/
namespace Mp

-- `Out.isBool` is the predicate `Out.isBoolOrNotOk` of GroupProofs.lean (a `Prop` there), which this module does not import
def Out.isBool : Out → Bool | .ok (.bool false _) => true | .ok _ => false | _ => true
def Out.isDec : Out → Bool | .ok (.dec _) => true | .ok _ => false | _ => true
def Out.isStr : Out → Bool | .ok (.str false _) => true | .ok _ => false | _ => true

@[simp] theorem isBool_okBool (b) : (okBool b).isBool = true := rfl
@[simp] theorem isDec_okDec (d) : (okDec d).isDec = true := rfl
@[simp] theorem isStr_okStr (s) : (okStr s).isStr = true := rfl

def returnsBoolean : List String := ["Equal","NotEqual","Less","LessOrEqual","Greater","GreaterOrEqual","Invert","Not","Contains","NotContains",
  "Prefix","NotPrefix","Suffix","NotSuffix","Any","AnyOf","IsNull","IsNotNull","IsEmpty","IsNotEmpty","IsNullOrEmpty","IsNotNullOrEmpty"]
def returnsNumber : List String := ["Count","Sum","Average","Minimum","Maximum","Add","Subtract","Multiply","Divide","Modulo"]
def returnsString : List String := ["TrimRight","TrimLeft","Right","Left","ReplaceAll"]

theorem returns_boolean (nm : String) (hn : nm ∈ returnsBoolean) (ps : List Prm) (v : GoVal) (o : Out)
    (h : pureFunc nm ps v = some o) : o.isBool = true := by
  refine (Option.all_eq_true _ _).mp ?_ o h
  -- here and in the next two: `hn` becomes one goal per listed name; on each the closing `simp` opens `pureFunc "Name" ps v` by
  -- its equation (a simp lemma of PureFuncEqs) and ends with the `_elim` lemma of that name's helper (PureFuncEqs) at the kind
  revert nm
  simp only [returnsBoolean, List.forall_mem_cons]
  simp [Fn.decBool_elim rfl isBool_okBool, Fn.strBool_elim rfl isBool_okBool, Fn.equal_elim rfl isBool_okBool,
    Fn.neg_elim isBool_okBool, Fn.invert_elim rfl isBool_okBool, Fn.any_elim rfl isBool_okBool, Fn.nullary_elim rfl isBool_okBool]

theorem returns_number (nm : String) (hn : nm ∈ returnsNumber) (ps : List Prm) (v : GoVal) (o : Out)
    (h : pureFunc nm ps v = some o) : o.isDec = true := by
  refine (Option.all_eq_true _ _).mp ?_ o h
  revert nm
  simp only [returnsNumber, List.forall_mem_cons]
  simp [decimalSlice_elim rfl isDec_okDec, Fn.count_elim rfl isDec_okDec, Fn.decOp_elim rfl isDec_okDec]

theorem returns_string (nm : String) (hn : nm ∈ returnsString) (ps : List Prm) (v : GoVal) (o : Out)
    (h : pureFunc nm ps v = some o) : o.isStr = true := by
  refine (Option.all_eq_true _ _).mp ?_ o h
  revert nm
  simp only [returnsString, List.forall_mem_cons]
  simp [stringPart_elim rfl isStr_okStr, Fn.replaceAll_elim rfl isStr_okStr]

#print axioms returns_boolean
#print axioms returns_number
#print axioms returns_string
end Mp
