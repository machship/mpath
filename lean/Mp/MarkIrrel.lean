import Mp.ReflLemmas
/-! C19: a `?` mark means something only where the marked key is missing or null. Whether a null further along may be stepped
    into is a matter of the key that produced it, not of an earlier key that happens to be marked. Core-only. -/
namespace Mp

/-- the state `sParts` is in after the operations `pre`, when more operations follow -/
def runPre (pre : List EPart) (data orig : GoVal) (priorNil : Bool) (prev : Option Bool) : Sum Out (GoVal × Bool × Option Bool) :=
  match pre with
  | [] => .inr (data, priorNil, prev)
  | op :: rest =>
    let isFunc := match op with | .func .. => true | _ => false
    let prop := match op with | .ident _ p => p | _ => false
    if (prev.isSome && priorNil) && !(prev.getD false) && !isFunc then .inl .knf else
    match sPart op data orig with
    | .ok v => runPre rest v orig (priorNil || isNilVal v) (some prop)
    | .knf => if prop then runPre rest .nil orig true (some prop) else .inl .knf
    | o => .inl o

theorem sParts_append (tail : List EPart) (ht : tail ≠ []) : ∀ (pre : List EPart) (data orig : GoVal) (pn : Bool) (prev : Option Bool),
    sParts (pre ++ tail) data orig pn prev =
      match runPre pre data orig pn prev with
      | .inl o => o
      | .inr (d, pn', pv') => sParts tail d orig pn' pv' := by
  intro pre data orig pn prev
  -- `sParts` on `op :: (rest ++ tail)` computes to the same tests, in the same order, as `runPre` on `op :: rest`
  fun_induction runPre
  case case1 => rfl  -- `pre = []`
  case case2 h => exact if_pos h  -- stopped by the test on the null met before
  case case3 h v hv ih =>  -- `op` yields `v`
    refine (if_neg h).trans ?_
    rw [hv]
    exact ih
  case case4 h hv hp ih =>  -- a marked key is absent
    refine (if_neg h).trans ?_
    rw [hv]
    refine (if_pos hp).trans ?_
    rw [← ih]
    -- what is left after `op` is not empty, so a marked key that is absent goes on from null on both sides
    split
    · next he => exact absurd (List.append_eq_nil_iff.mp he).2 ht
    · rfl
  case case5 h hv hp =>  -- an unmarked key is absent
    refine (if_neg h).trans ?_
    rw [hv]
    exact if_neg hp
  case case6 h hok hknf =>  -- any other outcome of `op` is the outcome
    refine (if_neg h).trans ?_
    split
    · next v hv => exact (hok v hv).elim
    · next hv => exact (hknf hv).elim
    · rfl

theorem sParts_prev_irrel (ops : List EPart) (data orig : GoVal) (p p' : Option Bool) :
    sParts ops data orig false p = sParts ops data orig false p' := by
  cases ops with
  | nil => rfl
  | cons op rest => unfold sParts; simp only [Bool.and_false, Bool.false_and]

theorem sPart_ident_mark (name : Bytes) (m m' : Bool) (cur orig : GoVal) : sPart (.ident name m) cur orig = sPart (.ident name m') cur orig :=
  rfl

theorem mark_irrelevant_head (name : Bytes) (rest : List EPart) (data orig v : GoVal) (prev : Option Bool)
    (hv : identDo name data = .ok v) (hn : isNilVal v = false) :
    sParts (.ident name true :: rest) data orig false prev = sParts (.ident name false :: rest) data orig false prev := by
  unfold sParts
  simp only [sPart_ident, hv, hn, Bool.or_false, Bool.and_false, Bool.false_and, Bool.false_eq_true, if_false]
  exact sParts_prev_irrel rest v orig _ _

/-- C19, anywhere in a path: if the operations in front of the key `name` leave evaluation at a value `d` without having met a
    null, and `name` exists in `d` with a value that is not null, then the path with the key marked and the path with the key
    unmarked have the same outcome, whatever operations follow. -/
theorem mark_irrelevant_on_present_key (pre rest : List EPart) (name : Bytes) (data orig d v : GoVal) (pn : Bool) (prev pv : Option Bool)
    (hpre : runPre pre data orig pn prev = .inr (d, false, pv))
    (hv : identDo name d = .ok v) (hn : isNilVal v = false) :
    sParts (pre ++ .ident name true :: rest) data orig pn prev = sParts (pre ++ .ident name false :: rest) data orig pn prev := by
  rw [sParts_append _ (by simp) pre, sParts_append _ (by simp) pre, hpre]
  exact mark_irrelevant_head name rest d orig v pv hv hn

/-- the other outcome of `runPre`: what follows, marked or not, is never looked at -/
theorem stopped_before (pre t1 t2 : List EPart) (h1 : t1 ≠ []) (h2 : t2 ≠ []) (data orig : GoVal) (pn : Bool) (prev : Option Bool) (o : Out)
    (hpre : runPre pre data orig pn prev = .inl o) :
    sParts (pre ++ t1) data orig pn prev = o ∧ sParts (pre ++ t2) data orig pn prev = o := by
  rw [sParts_append _ h1 pre, sParts_append _ h2 pre, hpre]; exact ⟨rfl, rfl⟩

/-- non-vacuity: `{"a": {"b": null}}`, `a?.b.c?` against `a.b.c?`: `a` exists and holds an object, nothing in front of it -/
def exMarkDoc : GoVal := .map .str false [[97]] [.map .str false [[98]] [.nil]]
example : ∃ v, identDo [97] exMarkDoc = .ok v ∧ isNilVal v = false ∧ runPre [] exMarkDoc exMarkDoc false none = .inr (exMarkDoc, false, none) :=
  ⟨_, rfl, rfl, rfl⟩

def markedIdents (ks : List Bytes) : List EPart := ks.map (fun k => EPart.ident k true)

theorem sParts_marked_missing {k : Bytes} {d orig : GoVal} {pn : Bool} {pv : Option Bool} {rest : List EPart}
    (hmiss : identDo k d = .knf) (hne : rest ≠ []) (hg : ((pv.isSome && pn) && !(pv.getD false)) = false) :
    sParts (.ident k true :: rest) d orig pn pv = sParts rest .nil orig true (some true) := by
  rw [← List.singleton_append, sParts_append rest hne]
  unfold runPre
  simp only [sPart_ident, hmiss, hg, Bool.false_and, Bool.false_eq_true, if_false, if_true]
  rfl

theorem propagate (f : EPart) (hf : ∃ n ps sel, f = .func n ps sel) (orig : GoVal) :
    ∀ ks : List Bytes, sParts (markedIdents ks ++ [f]) .nil orig true (some true) = sPart f .nil orig := by
  obtain ⟨n, ps, sel, rfl⟩ := hf
  intro ks
  induction ks with
  | nil =>
    simp only [markedIdents, List.map_nil, List.nil_append]
    unfold sParts
    simp only []
    generalize sPart (.func n ps sel) .nil orig = r
    cases r <;> rfl
  | cons k ks ih => exact (sParts_marked_missing (identDo_nil k) (by simp) rfl).trans ih

/-- C19: a missing key marked `?`, followed by any number of marked keys and a function: the function sees null -/
theorem missing_marked_key (k : Bytes) (d orig : GoVal) (ks : List Bytes) (f : EPart)
    (hf : ∃ n ps sel, f = .func n ps sel) (hmiss : identDo k d = .knf) :
    sParts (EPart.ident k true :: (markedIdents ks ++ [f])) d orig false none = sPart f .nil orig :=
  (sParts_marked_missing hmiss (by simp) rfl).trans (propagate f hf orig ks)

/-- C19: a key that is absent and NOT marked fails with key-not-found whatever follows, marked or not -/
theorem missing_unmarked_key (k : Bytes) (d orig : GoVal) (rest : List EPart) (hmiss : identDo k d = .knf) :
    sParts (EPart.ident k false :: rest) d orig false none = .knf := by
  unfold sParts
  simp [sPart_ident, hmiss]

#print axioms missing_marked_key
end Mp
