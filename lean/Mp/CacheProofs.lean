/-! C16 — `mpathOpCache` and `cueValueCache` of CueValidate, as association lists. Core-only. -/
namespace Mp

variable {Op Cue R : Type}

structure Caches (Op Cue : Type) where
  ops : List (String × Op)
  cues : List (String × Cue)

def Caches.empty : Caches Op Cue := ⟨[], []⟩

def find? {α} (k : String) : List (String × α) → Option α
  | [] => none
  | (k', v) :: t => if k' == k then some v else find? k t

inductive Res (R : Type) | missing | parseErr | cueErr | done (r : R)
deriving DecidableEq

structure World (Op Cue R : Type) where
  parse : String → Option Op          -- none: ParseString returned an error
  compile : String → Option Cue       -- none: the schema does not compile
  validate : Op → Cue → String → R    -- everything after the caches: a function of its arguments

/-- as written in CueValidate: on a miss compute; an error returns before anything is stored -/
def memo {α} (f : String → Option α) (k : String) (l : List (String × α)) : Option α × List (String × α) :=
  match find? k l with
  | some v => (some v, l)
  | none => match f k with
    | none => (none, l)
    | some v => (some v, (k, v) :: l)

def Good {α} (f : String → Option α) (l : List (String × α)) : Prop := ∀ k v, find? k l = some v → f k = some v

theorem find_cons {α} (k k' : String) (v : α) (l : List (String × α)) :
    find? k ((k', v) :: l) = if k' == k then some v else find? k l := rfl

/-- `hl` and the conclusion: `Good` for a cache that files `a` under `key a` -/
theorem good_cons_key {α} {key : String → String} (hinj : ∀ a b, key a = key b → a = b) {f : String → Option α}
    {l : List (String × α)} {k : String} {v : α} (hl : ∀ a v, find? (key a) l = some v → f a = some v)
    (hv : f k = some v) : ∀ a v', find? (key a) ((key k, v) :: l) = some v' → f a = some v' := by
  intro a v' h'
  rw [find_cons] at h'
  split at h'
  · next e =>
    cases hinj _ _ (beq_iff_eq.mp e)
    cases h'
    exact hv
  · exact hl a v' h'

theorem good_cons {α} {f : String → Option α} {l : List (String × α)} {k : String} {v : α} (hl : Good f l)
    (hv : f k = some v) : Good f ((k, v) :: l) :=
  good_cons_key (key := id) (fun _ _ h => h) hl hv

theorem memo_spec {α} (f : String → Option α) (k : String) (l : List (String × α)) (h : Good f l) :
    (memo f k l).1 = f k ∧ Good f (memo f k l).2 := by
  fun_cases memo f k l with
  | case1 v hf => exact ⟨(h k v hf).symm, h⟩
  | case2 hf hk => exact ⟨hk.symm, h⟩
  | case3 hf v hk => exact ⟨hk.symm, good_cons h hk⟩

/-- CueValidate as written -/
def step (W : World Op Cue R) (c : Caches Op Cue) (q s cp : String) : Res R × Caches Op Cue :=
  if q == "" || s == "" then (.missing, c) else
  let r1 := memo W.parse q c.ops
  match r1.1 with
  | none => (.parseErr, { c with ops := r1.2 })
  | some op =>
    let r2 := memo W.compile s c.cues
    match r2.1 with
    | none => (.cueErr, { ops := r1.2, cues := r2.2 })
    | some v => (.done (W.validate op v cp), { ops := r1.2, cues := r2.2 })

/-- the same call without caches -/
def pureCall (W : World Op Cue R) (q s cp : String) : Res R :=
  if q == "" || s == "" then .missing else
  match W.parse q with
  | none => .parseErr
  | some op => match W.compile s with
    | none => .cueErr
    | some v => .done (W.validate op v cp)

theorem pureCall_missing (W : World Op Cue R) (q s cp : String) (h : (q == "" || s == "") = true) :
    pureCall W q s cp = .missing := if_pos h

theorem pureCall_parseErr (W : World Op Cue R) (q s cp : String) (h : (q == "" || s == "") = false)
    (hp : W.parse q = none) : pureCall W q s cp = .parseErr := by
  simp [pureCall, h, hp]

theorem pureCall_cueErr (W : World Op Cue R) (q s cp : String) (op : Op) (h : (q == "" || s == "") = false)
    (hp : W.parse q = some op) (hc : W.compile s = none) : pureCall W q s cp = .cueErr := by
  simp [pureCall, h, hp, hc]

theorem pureCall_done (W : World Op Cue R) (q s cp : String) (op : Op) (v : Cue) (h : (q == "" || s == "") = false)
    (hp : W.parse q = some op) (hc : W.compile s = some v) : pureCall W q s cp = .done (W.validate op v cp) := by
  simp [pureCall, h, hp, hc]

def Inv (W : World Op Cue R) (c : Caches Op Cue) : Prop := Good W.parse c.ops ∧ Good W.compile c.cues

theorem step_spec (W : World Op Cue R) (c : Caches Op Cue) (hc : Inv W c) (q s cp : String) :
    (step W c q s cp).1 = pureCall W q s cp ∧ Inv W (step W c q s cp).2 := by
  obtain ⟨h1, g1⟩ := memo_spec W.parse q c.ops hc.1
  obtain ⟨h2, g2⟩ := memo_spec W.compile s c.cues hc.2
  unfold step pureCall
  split
  · exact ⟨rfl, hc⟩
  · simp only [h1, h2]
    cases W.parse q with
    | none => exact ⟨rfl, g1, hc.2⟩
    | some op => cases W.compile s <;> exact ⟨rfl, g1, g2⟩

def runHist (W : World Op Cue R) : Caches Op Cue → List (String × String × String) → Caches Op Cue
  | c, [] => c
  | c, (q, s, cp) :: t => runHist W (step W c q s cp).2 t

theorem inv_hist (W : World Op Cue R) : ∀ (h : List (String × String × String)) (c : Caches Op Cue), Inv W c → Inv W (runHist W c h) := by
  intro h
  induction h with
  | nil => intro c hc; exact hc
  | cons x t ih => intro c hc; obtain ⟨q, s, cp⟩ := x; exact ih _ (step_spec W c hc q s cp).2

theorem inv_empty (W : World Op Cue R) : Inv W Caches.empty := ⟨nofun, nofun⟩

/-- C16: after ANY history of earlier calls, a call returns what it returns in a fresh process. -/
theorem cache_transparent (W : World Op Cue R) (hist : List (String × String × String)) (q s cp : String) :
    (step W (runHist W Caches.empty hist) q s cp).1 = pureCall W q s cp :=
  (step_spec W _ (inv_hist W hist _ (inv_empty W)) q s cp).1

example : (step (⟨fun q => if q == "bad" then none else some q.length, fun s => some s, fun n s cp => (n, s, cp)⟩ : World Nat String (Nat × String × String))
    Caches.empty "$.a" "x: int" "").1 = .done (3, "x: int", "") := by decide

#print axioms cache_transparent
end Mp
