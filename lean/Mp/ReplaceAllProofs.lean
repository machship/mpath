import Mp.PureFuncEqs
/-! C18 — `ReplaceAll` replaces every non-overlapping occurrence of a non-empty search string, left to right. `replaceAllB` (the
    model of `strings.ReplaceAll` on a non-empty search string, validated against Go on every run) is a fuel-driven scan; the
    theorems say what it computes without mentioning the scan. -/
namespace Mp

theorem replaceAllB.go_succ (find repl l : Bytes) (f : Nat) :
    replaceAllB.go find repl l (f + 1) =
      if find.isPrefixOf l then repl ++ replaceAllB.go find repl (l.drop find.length) f
      else match l with | [] => [] | c :: t => c :: replaceAllB.go find repl t f := by
  cases l <;> rfl

theorem replaceAllB.go_fuel (find repl : Bytes) (hne : find ≠ []) (f₁ f₂ : Nat) (l : Bytes) (h₁ : l.length < f₁)
    (h₂ : l.length < f₂) : replaceAllB.go find repl l f₁ = replaceAllB.go find repl l f₂ := by
  induction f₁ generalizing f₂ l with
  | zero => omega
  | succ f₁ ih =>
    cases f₂ with
    | zero => omega
    | succ f₂ =>
      have hfl : 0 < find.length := List.length_pos_iff.mpr hne
      rw [replaceAllB.go_succ, replaceAllB.go_succ]
      split
      · rename_i hp
        have hle := (List.isPrefixOf_iff_prefix.mp hp).length_le
        rw [ih f₂ _ (by simp; omega) (by simp; omega)]
      · cases l with
        | nil => rfl
        | cons c t => simp only; rw [ih f₂ t (Nat.lt_of_succ_lt_succ h₁) (Nat.lt_of_succ_lt_succ h₂)]

theorem replaceAllB_nil (find repl : Bytes) (hne : find ≠ []) : replaceAllB [] find repl = [] := by
  cases find with
  | nil => exact absurd rfl hne
  | cons a t => rfl

theorem replaceAllB_prefix (find repl b : Bytes) (hne : find ≠ []) :
    replaceAllB (find ++ b) find repl = repl ++ replaceAllB b find repl := by
  have hfl : 0 < find.length := List.length_pos_iff.mpr hne
  unfold replaceAllB
  rw [replaceAllB.go_succ, if_pos (List.isPrefixOf_iff_prefix.mpr (List.prefix_append find b)), List.drop_left,
    replaceAllB.go_fuel find repl hne _ (b.length + 1) b (by simp; omega) (Nat.lt_succ_self _)]

theorem replaceAllB_cons (find repl : Bytes) (c : UInt8) (t : Bytes) (hp : ¬ find <+: c :: t) :
    replaceAllB (c :: t) find repl = c :: replaceAllB t find repl := by
  unfold replaceAllB
  rw [replaceAllB.go_succ, if_neg (mt List.isPrefixOf_iff_prefix.mp hp)]
  rfl

/-- "no occurrence of `find` starts inside `a`" in the text `a ++ rest` -/
def NoStartIn (find a rest : Bytes) : Prop := ∀ i, i < a.length → ¬ find <+: (a ++ rest).drop i

theorem noStartIn_cons {find : Bytes} {c : UInt8} {a rest : Bytes} :
    NoStartIn find (c :: a) rest ↔ ¬ find <+: c :: (a ++ rest) ∧ NoStartIn find a rest :=
  Nat.forall_lt_succ_left

theorem replaceAllB_skip (find repl a rest : Bytes) (h : NoStartIn find a rest) :
    replaceAllB (a ++ rest) find repl = a ++ replaceAllB rest find repl := by
  induction a with
  | nil => rfl
  | cons c a ih =>
    obtain ⟨h0, ht⟩ := noStartIn_cons.mp h
    rw [List.cons_append, replaceAllB_cons find repl c (a ++ rest) h0, ih ht]
    rfl

theorem replaceAll_no_occurrence (s find repl : Bytes) (hne : find ≠ []) (h : ¬ find <:+: s) :
    replaceAllB s find repl = s := by
  have hn : NoStartIn find s [] := by
    intro i _ hp
    rw [List.append_nil] at hp
    exact h (hp.isInfix.trans (List.drop_suffix i s).isInfix)
  simpa [replaceAllB_nil find repl hne] using replaceAllB_skip find repl s [] hn

/-- the leftmost occurrence is replaced and the scan continues AFTER it (non-overlapping) -/
theorem replaceAll_first_occurrence (a b find repl : Bytes) (hne : find ≠ [])
    (hleft : NoStartIn find a (find ++ b)) :
    replaceAllB (a ++ find ++ b) find repl = a ++ repl ++ replaceAllB b find repl := by
  rw [List.append_assoc, replaceAllB_skip find repl a (find ++ b) hleft, replaceAllB_prefix find repl b hne, List.append_assoc]

def joinWith (sep : Bytes) : List Bytes → Bytes
  | [] => []
  | [p] => p
  | p :: q :: ps => p ++ sep ++ joinWith sep (q :: ps)

/-- an occurrence that starts inside a piece ends inside `piece ++ find.dropLast`: if `find` does not occur there, none starts
    inside the piece, whatever follows the separator -/
theorem noStartIn_of_not_infix (find p rest : Bytes) (hne : find ≠ [])
    (h : ¬ find <:+: p ++ find.dropLast) : NoStartIn find p (find ++ rest) := by
  intro i hi hp
  have hfl : 0 < find.length := List.length_pos_iff.mpr hne
  -- p ++ find.dropLast is a prefix of the text, long enough to hold an occurrence that starts inside p
  obtain ⟨u, hu⟩ : p ++ find.dropLast <+: p ++ (find ++ rest) :=
    (List.prefix_append_right_inj p).mpr ((List.dropLast_prefix find).trans (List.prefix_append find rest))
  rw [← hu, List.drop_append_of_le_length (by simp; omega)] at hp
  have := List.prefix_of_prefix_length_le hp (List.prefix_append _ u) (by simp; omega)
  exact h (this.isInfix.trans (List.drop_suffix i _).isInfix)

/-- for pieces none of which lets an occurrence start inside it, `p₀ find p₁ find … pₙ` becomes `p₀ repl p₁ repl … pₙ` -/
theorem replaceAll_pieces (find repl : Bytes) (hne : find ≠ []) :
    ∀ (ps : List Bytes), (∀ p ∈ ps, ¬ find <:+: p ++ find.dropLast) →
      replaceAllB (joinWith find ps) find repl = joinWith repl ps := by
  intro ps h
  fun_induction joinWith find ps with
  | case1 => exact replaceAllB_nil find repl hne
  | case2 p =>
    exact replaceAll_no_occurrence _ _ _ hne fun hi => h p (by simp) (hi.trans (List.prefix_append p _).isInfix)
  | case3 p q ps ih =>
    rw [List.forall_mem_cons] at h
    rw [replaceAll_first_occurrence p _ find repl hne (noStartIn_of_not_infix find p _ hne h.1), ih h.2]
    rfl

theorem replaceAll_func (s f r : Bytes) (hne : f ≠ []) :
    pureFunc "ReplaceAll" [.str f, .str r] (.str false s) = some (okStr (replaceAllB s f r)) := by
  simp [Fn.replaceAll, prmStrings, hne]

/-- an empty search string is an error (Go's strings.ReplaceAll would insert the replacement between all runes) -/
theorem replaceAll_empty_search (s r : Bytes) :
    pureFunc "ReplaceAll" [.str [], .str r] (.str false s) = some .err := by
  simp [Fn.replaceAll, prmStrings]

/-- non-vacuity: "a-b--c" with "-" → "+" -/
example : replaceAllB [97, 45, 98, 45, 45, 99] [45] [43] = [97, 43, 98, 43, 43, 99] := by decide
/-- overlapping candidates: in "aaa", "aa" is replaced once (left to right, non-overlapping) -/
example : replaceAllB [97, 97, 97] [97, 97] [120] = [120, 97] := by decide

#print axioms replaceAll_no_occurrence
#print axioms replaceAll_first_occurrence
#print axioms replaceAll_pieces
#print axioms replaceAll_func
#print axioms replaceAll_empty_search
end Mp
