import Mp.CueSteps
import Mp.Deps
/-! C15 on the key-path validator of `Mp/Cue.lean`: which root fields are blocked and which are offered. Core-only. -/
namespace Mp

theorem depsOf_declared (isOpen : Bool) (fs : List CField) (n : String) (h : (depsOf (.struct isOpen fs) n).isSome) :
    n ∈ fs.map (·.name) := by
  unfold depsOf at h
  simp only [fvp_single, stepKey, stepStruct] at h
  split at h
  · next heq =>
    -- the key resolved to a struct: it was found among the fields, not answered by an open struct
    split at heq
    · next f hf =>
      exact List.mem_map.mpr ⟨f, List.mem_of_find?_eq_some hf, eq_of_beq (Bool.and_eq_true _ _ ▸ List.find?_some hf).1⟩
    · cases isOpen <;> simp at heq
  · simp at h

def graphOf (isOpen : Bool) (fs : List CField) : Deps.Graph where
  U := fs.map (·.name)
  deps := depsOf (.struct isOpen fs)
  closed := fun n h => depsOf_declared isOpen fs n h

/-- whenever the fuel-driven closure of the validator model returns a result, it is that of the well-founded closure of
    `Mp/Deps.lean` over the schema's dependency graph, so `Deps.closure_exact` applies to what the model, and by
    correspondence the code, computes -/
theorem closure_bridge (isOpen : Bool) (fs : List CField) : ∀ (fuel : Nat) (q v res : List String),
    closure (.struct isOpen fs) fuel q v = some res → Deps.closure (graphOf isOpen fs) q v = .ok res := by
  intro fuel q v res h
  fun_induction closure (.struct isOpen fs) fuel q v with
  | case1 | case4 => cases h
  | case2 =>
    cases h
    exact Deps.closure_nil _ _
  | case3 fuel d q v hv ih =>
    rw [Deps.closure_cons, if_pos hv]
    exact ih h
  | case5 fuel d q v hv nx hd ih =>
    rw [Deps.closure_cons, if_neg hv, show (graphOf isOpen fs).deps d = some nx from hd]
    exact ih h

theorem closure_model_exact (isOpen : Bool) (fs : List CField) (fuel : Nat) (start res : List String)
    (h : closure (.struct isOpen fs) fuel start [] = some res) (x : String) :
    x ∈ res ↔ ∃ s ∈ start, Deps.Reach (graphOf isOpen fs) s x :=
  Deps.closure_exact (graphOf isOpen fs) start res (closure_bridge isOpen fs fuel start [] res h) x

/-- C15 on the validator model: with a current step `cp`, a root field is blocked exactly when it is the current
    step itself (unless that is `input`), or it is a declared root field that is neither a base path nor reachable from
    the current step's `_dependencies` through any number of `_dependencies` edges. -/
theorem blocked_iff (isOpen : Bool) (fs : List CField) (cp : String) (hcp : cp ≠ "") (bl : List String)
    (h : blockedFields (.struct isOpen fs) [] cp = some bl) :
    ∃ deps, depsOf (.struct isOpen fs) cp = some deps ∧ ∀ f, f ∈ bl ↔
      (f = cp ∧ cp ≠ "input") ∨
      (f ∈ rootFieldNames (.struct isOpen fs) [] ∧ f ≠ cp ∧ f ∉ baseNames ∧ ¬ ∃ s ∈ deps, Deps.Reach (graphOf isOpen fs) s f) := by
  revert h
  -- `blockedFields` in order: no current step (1); the step is not in the schema, has no `_dependencies`, the closure runs out of
  -- fuel (2–4, all `none`); the list (5). Case 5 binds, in order: `cp ≠ ""`, the value at `cp` and its equation, `deps` and its
  -- equation, the fuel, `reach` and its equation, the two `let`s
  fun_cases blockedFields (.struct isOpen fs) [] cp with
  | case1 h0 => exact absurd (by simpa using h0) hcp
  | case2 | case3 | case4 => nofun
  | case5 _ _ _ deps hdeps _ reach hreach valid all =>
    intro h
    cases h
    refine ⟨deps, hdeps, fun f => ?_⟩
    have hex := closure_model_exact isOpen fs _ deps reach hreach
    -- a dependency reaches itself, so `deps` adds nothing to what is reachable from it
    have hdr : f ∉ deps ∧ f ∉ reach ↔ ¬ ∃ s ∈ deps, Deps.Reach (graphOf isOpen fs) s f := by
      rw [← not_or, or_iff_right_of_imp (fun h => (hex f).2 ⟨f, h, .refl f⟩), hex f]
    -- the head of the list is the first disjunct; a root field passes the filter when it is none of `cp`, the base paths, `deps`,
    -- `reach`: the second
    have hhead : f ∈ (if cp != "input" then [cp] else []) ↔ f = cp ∧ cp ≠ "input" := by
      by_cases hi : cp = "input" <;> simp [hi]
    have htail : (!valid.contains f) = true ↔ f ≠ cp ∧ f ∉ baseNames ∧ ¬ ∃ s ∈ deps, Deps.Reach (graphOf isOpen fs) s f := by
      rw [← hdr]
      simp [valid]
    rw [List.mem_append, hhead, List.mem_filter, htail]

theorem validateKeys_blocked_irrel (root : CTy) (b1 b2 : List String) (ks p : List String) (cur : Option (String × String)) :
    validateKeys root b1 ks p cur false = validateKeys root b2 ks p cur false := by
  simp only [← validateSteps_keys]
  exact blocked_only_first_key root b1 b2 _ p cur

theorem validateKeys_top (root : CTy) (bl : List String) (k : String) (ks : List String) :
    validateKeys root bl (k :: ks) [] none true =
      if k ∈ bl then .rej "blocked" else
      match stepKey root k with
      | none => .rej "notfound"
      | some v => specWalk v ks := by
  by_cases hb : k ∈ bl
  · simp [validateKeys, hb]
  · simp only [validateKeys, hb, List.contains_eq_mem, decide_false, Bool.and_false, Bool.false_eq_true, if_false,
      List.nil_append, fvp_single]
    cases hs : stepKey root k with
    | none => rfl
    | some v =>
      cases hk : kindOf v with
      | none => cases ks <;> simp [specWalk, hk]
      | some ti =>
        simp only [hk]
        rw [validateKeys_blocked_irrel root bl []]
        exact validate_walk root ks [k] v ti.1 ti.2 (by rw [fvp_single, hs]) hk

theorem specWalk_ne_blocked (v : CTy) (ks : List String) : specWalk v ks ≠ .rej "blocked" := by
  fun_induction specWalk v ks <;> simp_all

/-- C15: a query that starts at a blocked root field is rejected as not available, whatever follows -/
theorem blocked_first_key_rejected (root : CTy) (blocked : List String) (k : String) (ks : List String) (h : k ∈ blocked) :
    validateKeys root blocked (k :: ks) [] none true = .rej "blocked" := by
  rw [validateKeys_top, if_pos h]

theorem unblocked_first_key (root : CTy) (blocked : List String) (k : String) (ks : List String) (h : k ∉ blocked) :
    validateKeys root blocked (k :: ks) [] none true = validateKeys root [] (k :: ks) [] none true := by
  rw [validateKeys_top, validateKeys_top, if_neg h, if_neg List.not_mem_nil]

theorem offered_iff (root : CTy) (defNames : List String) (cp : String) (bl off : List String)
    (hb : blockedFields root defNames cp = some bl) (ho : offeredFields root defNames cp = some off) :
    ∀ f, f ∈ off ↔ f ∈ rootFieldNames root defNames ∧ f ∉ bl := by
  intro f
  unfold offeredFields at ho
  rw [hb] at ho
  simp only [Option.map_some, Option.some.injEq] at ho
  subst ho
  simp [List.mem_filter]

theorem offered_without_step (root : CTy) (defNames : List String) :
    offeredFields root defNames "" = some (rootFieldNames root defNames) := by
  simp [offeredFields, blockedFields]

/-- C15, the offer: with a current step `cp`, the fields offered at the root are exactly the declared root fields that are
    a base path, or the current step when it is `input`, or reachable from the current step's `_dependencies` through any
    number of `_dependencies` edges -/
theorem offered_exact (isOpen : Bool) (fs : List CField) (cp : String) (hcp : cp ≠ "") (off : List String)
    (h : offeredFields (.struct isOpen fs) [] cp = some off) :
    ∃ deps, depsOf (.struct isOpen fs) cp = some deps ∧ ∀ f, f ∈ off ↔
      f ∈ rootFieldNames (.struct isOpen fs) [] ∧ ¬ (f = cp ∧ cp ≠ "input") ∧
        (f = cp ∨ f ∈ baseNames ∨ ∃ s ∈ deps, Deps.Reach (graphOf isOpen fs) s f) := by
  cases hb : blockedFields (.struct isOpen fs) [] cp with
  | none => simp [offeredFields, hb] at h
  | some bl =>
    obtain ⟨deps, hd, hbl⟩ := blocked_iff isOpen fs cp hcp bl hb
    refine ⟨deps, hd, fun f => ?_⟩
    rw [offered_iff _ _ _ bl off hb h f, hbl f]
    -- De Morgan on "not blocked", then the disjunction read as `¬ · → ¬ · → ·`
    simp only [not_or, not_and, Classical.not_not]
    simp only [Classical.or_iff_not_imp_left]
    exact and_congr_right fun hroot => and_congr_right fun _ => ⟨fun g => g hroot, fun g _ => g⟩

/-- the offer and the verdict agree: a declared root field is offered exactly when a query that starts at it is not
    rejected as unavailable, whatever follows the first key -/
theorem offered_coherent (root : CTy) (defNames : List String) (cp : String) (bl off : List String)
    (hb : blockedFields root defNames cp = some bl) (ho : offeredFields root defNames cp = some off)
    (f : String) (ks : List String) (hf : f ∈ rootFieldNames root defNames) :
    f ∈ off ↔ validateKeys root bl (f :: ks) [] none true ≠ .rej "blocked" := by
  rw [offered_iff root defNames cp bl off hb ho f, validateKeys_top]
  constructor
  · rintro ⟨_, hnb⟩
    rw [if_neg hnb]
    cases stepKey root f with
    | none => simp
    | some v => exact specWalk_ne_blocked v ks
  · intro hne
    exact ⟨hf, fun hmem => hne (if_pos hmem)⟩

#print axioms closure_bridge
#print axioms closure_model_exact
#print axioms blocked_iff
#print axioms blocked_first_key_rejected
#print axioms unblocked_first_key
#print axioms offered_iff
#print axioms offered_exact
#print axioms offered_coherent
end Mp
