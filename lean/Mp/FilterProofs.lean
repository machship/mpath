import Mp.ReflLemmas
/-! C02: a filter of the structural evaluator is `List.filter` by the truth of its body. Core-only. -/
namespace Mp

/-- the loop of `opFilter.Do` is `List.filter` -/
theorem filterList_spec (f : GoVal → Out) (φ : GoVal → Bool) :
    ∀ (xs acc : List GoVal), (∀ x ∈ xs, ∃ n, f x = .ok (.bool n (φ x))) →
      filterList f xs acc = .ok (.slice true false (acc ++ xs.filter φ)) := by
  intro xs
  induction xs with
  | nil => intro acc _; simp [filterList]
  | cons x xs ih =>
    intro acc h
    obtain ⟨⟨n, hx⟩, hxs⟩ := List.forall_mem_cons.mp h
    unfold filterList
    simp only [hx]
    cases hφ : φ x <;> simp [ih _ hxs, hφ]

/-- C02 for whatever `getAsStructOrSlice` presents as a list -/
theorem filter_list (lo : ELogic) {v : GoVal} {a b : Bool} {xs : List GoVal} (orig : GoVal) (φ : GoVal → Bool)
    (hv : asStructOrSlice v = some (.slice a b xs, false))
    (h : ∀ x ∈ xs, ∃ m, sLogic lo x orig = .ok (.bool m (φ x))) :
    sPart (.filter lo) v orig = .ok (.slice true false (xs.filter φ)) := by
  unfold sPart
  rw [hv]
  exact filterList_spec (fun x => sLogic lo x orig) φ xs [] h

/-- C02: `coll[body]` over a slice keeps exactly the elements on which the body is true, in order -/
theorem filter_slice (lo : ELogic) (ei n : Bool) (xs : List GoVal) (orig : GoVal) (φ : GoVal → Bool)
    (h : ∀ x ∈ xs, ∃ m, sLogic lo x orig = .ok (.bool m (φ x))) :
    sPart (.filter lo) (.slice ei n xs) orig = .ok (.slice true false (xs.filter φ)) :=
  filter_list lo orig φ (asStructOrSlice_slice ei n xs) h

/-- C02: two filters in a row are one filter with both predicates -/
theorem filter_compose (lo1 lo2 : ELogic) (ei n : Bool) (xs : List GoVal) (orig : GoVal) (φ ψ : GoVal → Bool)
    (h1 : ∀ x ∈ xs, ∃ m, sLogic lo1 x orig = .ok (.bool m (φ x)))
    (h2 : ∀ x ∈ xs, ∃ m, sLogic lo2 x orig = .ok (.bool m (ψ x))) :
    (match sPart (.filter lo1) (.slice ei n xs) orig with
     | .ok v => sPart (.filter lo2) v orig
     | o => o) = .ok (.slice true false (xs.filter (fun x => φ x && ψ x))) := by
  simp only [filter_slice lo1 ei n xs orig φ h1]
  rw [filter_slice lo2 true false (xs.filter φ) orig ψ (fun x hx => h2 x (List.mem_filter.mp hx).1)]
  simp [List.filter_filter, Bool.and_comm]

/-- on whatever `getAsStructOrSlice` presents as a single object, a filter yields the object or null -/
theorem filter_object (lo : ELogic) {v obj : GoVal} (orig : GoVal) {m b : Bool} (hv : asStructOrSlice v = some (obj, true))
    (h : sLogic lo obj orig = .ok (.bool m b)) : sPart (.filter lo) v orig = .ok (if b then obj else .nil) := by
  unfold sPart
  simp only [hv, h]
  cases b <;> rfl

theorem filter_single_object (lo : ELogic) (ks : List Bytes) (vs : List GoVal) (orig : GoVal) (b : Bool) (m : Bool)
    (h : sLogic lo (.map .str false ks vs) orig = .ok (.bool m b)) :
    sPart (.filter lo) (.map .str false ks vs) orig = .ok (if b then .map .str false ks vs else .nil) :=
  filter_object lo orig rfl h

theorem filter_single_struct (lo : ELogic) (ns : List (Bytes × Bool)) (vs : List GoVal) (orig : GoVal) (b : Bool) (m : Bool)
    (h : sLogic lo (.struct ns vs) orig = .ok (.bool m b)) :
    sPart (.filter lo) (.struct ns vs) orig = .ok (if b then .struct ns vs else .nil) :=
  filter_object lo orig rfl h

theorem filter_empty (lo : ELogic) (ei n : Bool) (orig : GoVal) :
    sPart (.filter lo) (.slice ei n []) orig = .ok (.slice true false []) :=
  filter_slice lo ei n [] orig (fun _ => true) nofun

#print axioms filter_slice
#print axioms filter_compose
#print axioms filter_single_object
#print axioms filter_single_struct
#print axioms filter_empty
end Mp
