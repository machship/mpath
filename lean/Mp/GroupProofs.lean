import Mp.ReflLemmas
/-! C03: an AND / OR group (`sLogic`, `sLParts`) is truth-functional. Core-only. -/
namespace Mp

-- the same predicate as `Out.isBool` of ReturnKinds.lean (a `Bool` there), which this module does not import
def Out.isBoolOrNotOk : Out → Prop
  | .ok (.bool false _) => True
  | .ok _ => False
  | _ => True

theorem okBool_isBoolOrNotOk (b : Bool) : (okBool b).isBoolOrNotOk := trivial

/-- C03 (typing half): a group never evaluates to a non-boolean value -/
theorem sLParts_bool (ty : Bytes) (ops : List ELPart) (cur orig : GoVal) :
    (sLParts ty ops cur orig).isBoolOrNotOk := by
  induction ops with
  | nil =>
    unfold sLParts
    split
    · exact okBool_isBoolOrNotOk _
    · split
      · exact okBool_isBoolOrNotOk _
      · trivial
  | cons op rest ih =>
    unfold sLParts
    generalize sLPart op cur orig = r
    cases r with
    | ok v =>
      simp only []
      split
      · split
        · exact okBool_isBoolOrNotOk _
        · split
          · exact okBool_isBoolOrNotOk _
          · exact ih
      · exact okBool_isBoolOrNotOk _
    | _ => trivial

theorem sLogic_bool (l : ELogic) (cur orig : GoVal) : (sLogic l cur orig).isBoolOrNotOk := by
  cases l with
  | mk ty ops => unfold sLogic; exact sLParts_bool ty ops cur orig

def specFold (isAnd : Bool) : List Bool → Bool
  | [] => isAnd
  | b :: bs => if isAnd then b && specFold isAnd bs else b || specFold isAnd bs

/-- C03 (value half): if every operand evaluates to a plain bool, an AND/OR group is the conjunction/disjunction,
    for operand lists of any length -/
theorem sLParts_truth (isAnd : Bool) (tv : ELPart → Bool) (cur orig : GoVal) :
    ∀ (ops : List ELPart), (∀ op ∈ ops, ∃ m, sLPart op cur orig = .ok (.bool m (tv op))) →
    sLParts (if isAnd then tyAnd else tyOr) ops cur orig = okBool (specFold isAnd (ops.map tv)) := by
  intro ops
  induction ops with
  | nil => intro _; cases isAnd <;> rfl
  | cons op rest ih =>
    intro h
    obtain ⟨⟨m, hop⟩, hrest⟩ := List.forall_mem_cons.mp h
    unfold sLParts
    simp only [hop, norm_bool, ih hrest, List.map_cons]
    cases isAnd <;> cases tv op <;> rfl

#print axioms sLParts_truth
#print axioms sLogic_bool
end Mp
