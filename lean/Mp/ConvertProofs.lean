import Mp.ReflLemmas
/-! C06: an integer of any kind and width, bare or behind one pointer, reaches the functions and the lookups as the decimal of the
    same value. Core-only. -/
namespace Mp

/-- C06; no bound on `v`: includes every uint64 -/
theorem convert_int (k : NumKind) (named : Bool) (v : Int) : toDecimalIfNumber (.int k named v) = .dec ⟨v, 0⟩ := by
  -- the dereference in front is made only if the value is not zero: `ite_self`
  have hp : (GoVal.int k named v).kind ≠ .ptr := by rcases GoVal.kind_int k named v with h | h <;> simp [h]
  simp only [toDecimalIfNumber, toDecimalCheck, RV.derefOnce_of hp, ite_self]
  rfl

theorem convert_ptr_int (k : NumKind) (named : Bool) (v : Int) :
    toDecimalIfNumber (.ptr false (.int k named v)) = .dec ⟨v, 0⟩ := rfl

/-- as a function receiver -/
theorem receiver_int (k : NumKind) (named : Bool) (v : Int) :
    toDecimalIfNumber (normalizeValue (.int k named v)) = .dec ⟨v, 0⟩ := rfl

theorem receiver_ptr_int (k : NumKind) (named : Bool) (v : Int) :
    toDecimalIfNumber (normalizeValue (.ptr false (.int k named v))) = .dec ⟨v, 0⟩ := rfl

/-- the conversion a key lookup applies leaves every string alone, numeral or not -/
theorem convert_str (named : Bool) (s : Bytes) : numberKindsToDecimal (.str named s) = .str named s :=
  numberKindsToDecimal_of_kind (by simp [GoVal.kind])

#print axioms convert_int
end Mp
