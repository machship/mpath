import Mp.Print
import Mp.RoundTripStr
import Mp.MarkProofs
/-! C09 — print/parse round trip for paths of keys and calls with literal arguments. The proof runs the scanner and parser
    models on the printed bytes; what it needs from the unicode tables is stated as hypotheses (`PunctOK`, `AtOK`, `ParenOK`,
    `MarkOK`, `ArgOK`, `Key`), which `Mp/RoundTripGo.lean` proves of the tables of the running Go. -/
namespace Mp

/-- the scanner takes the mark `?` (63) into an identifier: it is not one of mpath's reserved runes -/
def MarkOK (T : Tables) : Prop := IdB T 63

/-- 64 is `@` -/
def AtOK (T : Tables) : Prop := T.isPrint 64 = true

def tokB (km : Bytes × Bool) : Bytes := if km.2 then km.1 ++ [63] else km.1

inductive Arg where
  | s (a : Bytes)
  | b (v : Bool)

def wordTrue : Bytes := [116, 114, 117, 101]
def wordFalse : Bytes := [102, 97, 108, 115, 101]

def Arg.text : Arg → Bytes
  | .s a => 34 :: (Mp.escape a ++ [34])
  | .b true => wordTrue
  | .b false => wordFalse

def Arg.param : Arg → Param
  | .s a => .str a
  | .b v => .bool v

def Arg.OK : Arg → Prop
  | .s a => Lit a
  | .b _ => True

/-- what follows an argument: `)` (41), or `,` (44) and the arguments that remain -/
def sepArgs : List Arg → Bytes
  | [] => [41]
  | a :: t => 44 :: (a.text ++ sepArgs t)

def argsText : List Arg → Bytes
  | [] => [41]
  | a :: t => a.text ++ sepArgs t

structure ArgOK (T : Tables) : Prop where
  comma : T.isPrint 44 = true
  word : ∀ b ∈ wordTrue ++ wordFalse, IdB T b

theorem asc_argText (a : Arg) (h : a.OK) : Asc a.text := by
  cases a with
  | s x => simp [Arg.text, asc_escape x h]
  | b v => cases v <;> simp [Arg.text, wordTrue, wordFalse]

theorem asc_sepArgs (as : List Arg) (h : ∀ a ∈ as, a.OK) : Asc (sepArgs as) := by
  induction as with
  | nil => simp [sepArgs]
  | cons a t ih =>
    obtain ⟨ha, ht⟩ := List.forall_mem_cons.mp h
    simp [sepArgs, asc_argText a ha, ih ht]

theorem asc_argsText (as : List Arg) (h : ∀ a ∈ as, a.OK) : Asc (argsText as) := by
  cases as with
  | nil => simp [argsText]
  | cons a t => exact (asc_cons.mp (asc_sepArgs (a :: t) h)).2

inductive Seg where
  | key (k : Bytes) (m : Bool)
  | call (name : Bytes)
  | callS (name : Bytes) (arg : Bytes)   -- a call with one string literal
  | callA (name : Bytes) (args : List Arg)

def Seg.text : Seg → Bytes
  | .key k m => tokB (k, m)
  | .call n => n ++ [40, 41]
  | .callS n a => n ++ (40 :: 34 :: (Mp.escape a ++ [34, 41]))
  | .callA n as => n ++ (40 :: argsText as)

/-- as the parser builds it: the first field of `.func` is its "unknown function" flag, the last field of both the text as
    written -/
def Seg.part : Seg → PathPart
  | .key k m => .ident k m (tokB (k, m))
  | .call n => .func (!(knownFuncs.map str).contains n) n [] (n ++ [40, 41])
  | .callS n a => .func (!(knownFuncs.map str).contains n) n [.str a] (n ++ (40 :: 34 :: (Mp.escape a ++ [34, 41])))
  | .callA n as => .func (!(knownFuncs.map str).contains n) n (as.map Arg.param) (n ++ (40 :: argsText as))

def Seg.OK (T : Tables) : Seg → Prop
  | .key k _ => Key T k
  | .call n => Key T n
  | .callS n a => Key T n ∧ Lit a
  | .callA n as => Key T n ∧ ∀ a ∈ as, a.OK

def Seg.nargs : Seg → Nat
  | .callA _ as => as.length
  | .callS _ _ => 1
  | _ => 0

/-- fuel the path loop needs with the steps `ss` still to read: two units a step, and enough for the argument loop of a call -/
def need : List Seg → Nat
  | [] => 1
  | sg :: ss => max (need ss + 2) (2 * sg.nargs + 5)

/-- the text after `$`: `.k₁.k₂?.Count()…`; `K` here, like `key` in `keyParts`, `keyPath` and `pathLoop_keys`, stands for any
    step of the path, calls included -/
def restK : List Seg → Bytes
  | [] => []
  | sg :: ss => 46 :: (sg.text ++ restK ss)

def keyParts (ss : List Seg) : List PathPart := ss.map Seg.part
/-- `$` or `@` -/
def rootB (root : Bool) : UInt8 := if root then 36 else 64
/-- as the parser builds it: no flag set, the printed text recorded -/
def keyPath (root : Bool) (ss : List Seg) : PathOp := .mk false root false false (keyParts ss) (rootB root :: restK ss)

theorem Key.idb {T : Tables} {k : Bytes} (h : Key T k) : ∀ b ∈ k, IdB T b := fun b hb => (h.2 b hb).toIdB

theorem idb_tokB {T : Tables} (hm : MarkOK T) {k : Bytes} (m : Bool) (h : Key T k) : ∀ b ∈ tokB (k, m), IdB T b := by
  cases m with
  | false => exact h.idb
  | true => exact List.forall_mem_append.mpr ⟨h.idb, List.forall_mem_singleton.mpr hm⟩

theorem tokB_ne_nil {T : Tables} {k : Bytes} (m : Bool) (h : Key T k) : tokB (k, m) ≠ [] := by
  cases m with
  | false => exact h.1
  | true => simp [tokB]

/-- the three kinds of call differ in how the arguments are given, not in what is printed and parsed; for `call n` and
    `callA n []` the two are the same by computation -/
theorem Seg.callS_text (n a : Bytes) : (Seg.callS n a).text = (Seg.callA n [.s a]).text := by
  simp [Seg.text, argsText, sepArgs, Arg.text]
theorem Seg.callS_part (n a : Bytes) : (Seg.callS n a).part = (Seg.callA n [.s a]).part := by
  simp [Seg.part, argsText, sepArgs, Arg.text, Arg.param]

theorem asc_seg {T : Tables} (hm : MarkOK T) (sg : Seg) (h : sg.OK T) : Asc sg.text := by
  have hn : ∀ {n : Bytes}, Key T n → Asc n := fun hk => asc_of_idb hk.idb
  cases sg with
  | key k m => exact asc_of_idb (idb_tokB hm m h)
  | call n => simp [Seg.text, hn h]
  | callS n a => simp [Seg.text, hn h.1, asc_escape a h.2]
  | callA n as => simp [Seg.text, hn h.1, asc_argsText as h.2]

theorem asc_restK {T : Tables} (hm : MarkOK T) (ss : List Seg) (h : ∀ sg ∈ ss, sg.OK T) : Asc (restK ss) := by
  induction ss with
  | nil => exact asc_nil
  | cons sg ss ih =>
    obtain ⟨hsg, hss⟩ := List.forall_mem_cons.mp h
    simp [restK, asc_seg hm sg hsg, ih hss]

theorem stopAt_restK (T : Tables) (ss : List Seg) : StopAt T (restK ss) := by
  cases ss with
  | nil => trivial
  | cons k ks => exact stopAt_dot T _

/-- the token that `pathLoop` holds, and the scanner state behind it, when `restK ss` is still to be read -/
def tokOf (e : Nat) : List Seg → TokKind × Sc
  | [] => (.eof, mkS [] e [])
  | sg :: ss => (.rune 46, mkS [46] e (sg.text ++ restK ss))

theorem scan_restK {T : Tables} (hT : PunctOK T) {tok : Bytes} {e : Nat} {ss : List Seg} (har : Asc (restK ss)) :
    scan T (mkS tok e (restK ss)) = tokOf e ss := by
  cases ss with
  | nil => exact scan_eof T _ e (sxPrep_mkS tok e [] rfl)
  | cons sg ss => exact scan_dot T hT _ e _ (sxPrep_mkS tok e _ rfl) (asc_cons.mp har).2

theorem split_mark {T : Tables} {k : Bytes} (m : Bool) (h : Key T k) : splitMark (tokB (k, m)) = (k, m) := by
  cases m with
  | true => exact splitMark_marked k
  | false => exact splitMark_unmarked k fun hl => (h.2 63 (List.mem_of_getLast? hl)).notMark rfl

-- `with_unfolding_all`: see `lparen_bytes`
theorem str_true : str "true" = wordTrue := by with_unfolding_all decide
theorem str_false : str "false" = wordFalse := by with_unfolding_all decide
theorem str_dollar : str "$" = [36] := by with_unfolding_all decide
theorem str_at : str "@" = [64] := by with_unfolding_all decide

/-- the token the argument loop holds after an argument, when `sepArgs t ++ rest` is still to be read -/
def tokSep (e : Nat) (rest : Bytes) : List Arg → TokKind × Sc
  | [] => (.rune 41, mkS [41] e rest)
  | a :: t => (.rune 44, mkS [44] e (a.text ++ (sepArgs t ++ rest)))

/-- the token of an argument that `sepArgs t ++ rest` follows -/
def tokArg (e : Nat) (rest : Bytes) (a : Arg) (t : List Arg) : TokKind × Sc :=
  match a with
  | .s x => (.str, mkS (34 :: (Mp.escape x ++ [34])) e (sepArgs t ++ rest))
  | .b true => (.ident, mkS wordTrue e (sepArgs t ++ rest))
  | .b false => (.ident, mkS wordFalse e (sepArgs t ++ rest))

theorem funcLoop_lit {T : Tables} {f : Nat} {inv : Bool} {name : Bytes} {ps : List Param} {us : Bytes} {e : Nat} {rest : Bytes}
    {a : Arg} {t : List Arg} (ha : a.OK) :
    funcLoop T (f + 1) inv name ps us (tokArg e rest a t).1 (tokArg e rest a t).2 =
      funcLoop T f inv name (a.param :: ps) (us ++ a.text) (scan T (mkS a.text e (sepArgs t ++ rest))).1
        (scan T (mkS a.text e (sepArgs t ++ rest))).2 := by
  conv => lhs; unfold funcLoop
  cases a with
  | s x => simp only [tokArg, mkS_tok, unescape_token x ha, Arg.param, Arg.text]
  | b v =>
    have h : (wordFalse == wordTrue) = false := by decide
    cases v <;> simp [tokArg, str_true, str_false, h, Arg.param, Arg.text]

theorem parseFunc_open {T : Tables} (hp : ParenOK T) {f : Nat} {n : Bytes} {e : Nat} {t : Bytes} (ht : Asc t) :
    parseFunc T (f + 1) (mkS n e (40 :: t)) =
      funcLoop T f (!(knownFuncs.map str).contains n) n [] (n ++ [40]) (scan T (mkS [40] e t)).1 (scan T (mkS [40] e t)).2 := by
  unfold parseFunc
  have hch : (((40 : UInt8).toNat : Int) != 40) = false := by decide
  simp only [mkS_ch, hch, Bool.false_eq_true, if_false, mkS_tok]
  rw [scan_lparen T hp _ e _ (sxPrep_mkS n e _ rfl) ht]
  simp only [lparen_bytes]

theorem funcLoop_close {T : Tables} {f : Nat} {inv : Bool} {name : Bytes} {ps : List Param} {us : Bytes} {s : Sc} :
    funcLoop T (f + 1) inv name ps us (.rune 41) s =
      .ok (.func inv name ps.reverse (us ++ [41])) (scan T s).1 (scan T s).2 := by
  conv => lhs; unfold funcLoop
  rfl

theorem parseFunc_call0 (T : Tables) (hT : PunctOK T) (hm : MarkOK T) (hp : ParenOK T) (e : Nat) (n : Bytes) (ss : List Seg) (f : Nat)
    (hss : ∀ sg ∈ ss, sg.OK T) :
    parseFunc T (f + 2) (mkS n e (40 :: 41 :: restK ss)) =
      .ok (.func (!(knownFuncs.map str).contains n) n [] (n ++ [40, 41])) (tokOf e ss).1 (tokOf e ss).2 := by
  have har : Asc (restK ss) := asc_restK hm ss hss
  rw [parseFunc_open hp (by simp [har]), scan_rparen T hp _ e _ (sxPrep_mkS _ e _ rfl) har, funcLoop_close,
    scan_restK hT har]
  simp

theorem parseFunc_callS (T : Tables) (hT : PunctOK T) (hm : MarkOK T) (hp : ParenOK T) (e : Nat) (n a : Bytes) (ss : List Seg) (f : Nat)
    (hss : ∀ sg ∈ ss, sg.OK T) (hl : Lit a) :
    parseFunc T (f + 3) (mkS n e (40 :: 34 :: (Mp.escape a ++ 34 :: 41 :: restK ss))) =
      .ok (.func (!(knownFuncs.map str).contains n) n [.str a] (n ++ (40 :: 34 :: (Mp.escape a ++ [34, 41])))) (tokOf e ss).1 (tokOf e ss).2 := by
  have har : Asc (restK ss) := asc_restK hm ss hss
  have ha1 : Asc (41 :: restK ss) := by simp [har]
  rw [parseFunc_open hp (by simp [asc_escape a hl, har]), scan_string T a _ e _ hl ha1 (sxPrep_mkS _ e _ rfl)]
  refine (funcLoop_lit (rest := restK ss) (a := .s a) (t := []) hl).trans ?_
  rw [show sepArgs [] ++ restK ss = 41 :: restK ss from rfl, scan_rparen T hp _ e _ (sxPrep_mkS _ e _ rfl) har, funcLoop_close,
    scan_restK hT har]
  simp [Arg.param, Arg.text]

theorem stopAt_sepRest (T : Tables) (t : List Arg) (rest : Bytes) : StopAt T (sepArgs t ++ rest) := by
  cases t <;> exact stopAt_punct T _ (by decide)

theorem scan_sep {T : Tables} (hp : ParenOK T) (hA : ArgOK T) {tok : Bytes} {e : Nat} {rest : Bytes} (hr : Asc rest)
    {t : List Arg} (ht : ∀ a ∈ t, a.OK) : scan T (mkS tok e (sepArgs t ++ rest)) = tokSep e rest t := by
  cases t with
  | nil => exact scan_rparen T hp _ e rest (sxPrep_mkS tok e _ rfl) hr
  | cons a t =>
    have ha : Asc (sepArgs (a :: t) ++ rest) := asc_append.mpr ⟨asc_sepArgs _ ht, hr⟩
    rw [show sepArgs (a :: t) ++ rest = 44 :: (a.text ++ (sepArgs t ++ rest)) by simp [sepArgs]] at ha ⊢
    exact scan_rune T 44 (by decide) hA.comma (sxPrep_mkS tok e _ rfl) (asc_cons.mp ha).2

theorem scan_arg {T : Tables} (hA : ArgOK T) {tok : Bytes} {e : Nat} {rest : Bytes} (hr : Asc rest) {a : Arg} (ha : a.OK)
    {t : List Arg} (ht : ∀ x ∈ t, x.OK) :
    scan T (mkS tok e (a.text ++ (sepArgs t ++ rest))) = tokArg e rest a t := by
  have hsr : Asc (sepArgs t ++ rest) := asc_append.mpr ⟨asc_sepArgs t ht, hr⟩
  cases a with
  | s x =>
    rw [show (Arg.s x).text ++ (sepArgs t ++ rest) = 34 :: (Mp.escape x ++ 34 :: (sepArgs t ++ rest)) by simp [Arg.text]]
    exact scan_string T x _ e _ ha hsr (sxPrep_mkS tok e _ rfl)
  | b v =>
    obtain ⟨htrue, hfalse⟩ := List.forall_mem_append.mp hA.word
    cases v with
    | true => exact scan_ident_mkS T (by decide) htrue (stopAt_sepRest T t rest) hsr
    | false => exact scan_ident_mkS T (by decide) hfalse (stopAt_sepRest T t rest) hsr

/-- the argument loop entered on the token after an argument (first conjunct) and on the token of an argument (second) -/
theorem funcLoop_args (T : Tables) (hT : PunctOK T) (hm : MarkOK T) (hp : ParenOK T) (hA : ArgOK T) (e : Nat) (inv : Bool)
    (name : Bytes) (ss : List Seg) (hss : ∀ sg ∈ ss, sg.OK T) :
    ∀ (t : List Arg), (∀ a ∈ t, a.OK) →
      (∀ (F : Nat) (ps : List Param) (us : Bytes), 2 * t.length + 1 ≤ F →
        funcLoop T F inv name ps us (tokSep e (restK ss) t).1 (tokSep e (restK ss) t).2 =
          .ok (.func inv name (ps.reverse ++ t.map Arg.param) (us ++ sepArgs t)) (tokOf e ss).1 (tokOf e ss).2) ∧
      (∀ (a : Arg), a.OK → ∀ (F : Nat) (ps : List Param) (us : Bytes), 2 * t.length + 2 ≤ F →
        funcLoop T F inv name ps us (tokArg e (restK ss) a t).1 (tokArg e (restK ss) a t).2 =
          .ok (.func inv name (ps.reverse ++ (a :: t).map Arg.param) (us ++ a.text ++ sepArgs t)) (tokOf e ss).1 (tokOf e ss).2) := by
  have har : Asc (restK ss) := asc_restK hm ss hss
  intro t ht
  -- the second conjunct is one step away from the first for the same `t`
  refine have first := ?_; ⟨first, fun a ha F ps us hF => ?_⟩
  · induction t with
    | nil =>
      intro F ps us hF
      obtain ⟨f, rfl, -⟩ := fuel_succ hF
      simp only [tokSep]
      rw [funcLoop_close, scan_restK hT har]
      simp [sepArgs]
    | cons a t ih =>
      intro F ps us hF
      obtain ⟨ha, htt⟩ := List.forall_mem_cons.mp ht
      obtain ⟨f, rfl, h1⟩ := fuel_succ hF
      obtain ⟨f, rfl, h2⟩ := fuel_succ (n := 2 * t.length + 1) h1
      unfold funcLoop
      simp only [tokSep, beq_self_eq_true, if_true]
      rw [scan_arg hA har ha htt, funcLoop_lit ha, scan_sep hp hA har htt, ih htt f _ _ h2]
      simp [sepArgs]
  · obtain ⟨f, rfl, h1⟩ := fuel_succ hF
    rw [funcLoop_lit ha, scan_sep hp hA har ht, first f _ _ h1]
    simp

theorem parseFunc_callA (T : Tables) (hT : PunctOK T) (hm : MarkOK T) (hp : ParenOK T) (hA : ArgOK T) (e : Nat) (n : Bytes)
    (as : List Arg) (ss : List Seg) (f : Nat) (hss : ∀ sg ∈ ss, sg.OK T) (has : ∀ a ∈ as, a.OK) :
    parseFunc T (f + 2 * as.length + 2) (mkS n e (40 :: (argsText as ++ restK ss))) =
      .ok (.func (!(knownFuncs.map str).contains n) n (as.map Arg.param) (n ++ (40 :: argsText as))) (tokOf e ss).1 (tokOf e ss).2 := by
  cases as with
  | nil => exact parseFunc_call0 T hT hm hp e n ss f hss
  | cons a t =>
    obtain ⟨ha, ht⟩ := List.forall_mem_cons.mp has
    have har : Asc (restK ss) := asc_restK hm ss hss
    rw [show f + 2 * (a :: t).length + 2 = (f + 2 * (a :: t).length + 1) + 1 from rfl,
      parseFunc_open hp (asc_append.mpr ⟨asc_argsText _ has, har⟩),
      show argsText (a :: t) ++ restK ss = a.text ++ (sepArgs t ++ restK ss) by simp [argsText], scan_arg hA har ha ht,
      (funcLoop_args T hT hm hp hA e _ n ss hss t ht).2 a ha _ [] (n ++ [40]) (by simp; omega)]
    simp [argsText]

theorem sepArgs_length (as : List Arg) : as.length < (sepArgs as).length := by
  induction as with
  | nil => simp [sepArgs]
  | cons a t ih =>
    simp only [sepArgs, List.length_cons, List.length_append]
    omega

theorem argsText_length (as : List Arg) : as.length ≤ (argsText as).length := by
  cases as with
  | nil => simp
  | cons a t =>
    have := sepArgs_length t
    simp only [argsText, List.length_cons, List.length_append]
    omega

/-- `parse` hands the path loop twice the length of the text and some -/
theorem need_le {T : Tables} (ss : List Seg) (h : ∀ sg ∈ ss, sg.OK T) : need ss ≤ 2 * (restK ss).length + 4 := by
  induction ss with
  | nil => simp [need]
  | cons sg ss ih =>
    obtain ⟨hk, hss⟩ := List.forall_mem_cons.mp h
    have := ih hss
    have h1 : 2 * sg.nargs + 2 ≤ 2 * sg.text.length := by
      cases sg with
      | key k m => have := List.length_pos_iff.mpr (tokB_ne_nil m hk); simp [Seg.nargs, Seg.text]; omega
      | call n => simp [Seg.text, Seg.nargs]; omega
      | callS n a => simp [Seg.text, Seg.nargs]; omega
      | callA n as => have := argsText_length as; simp [Seg.text, Seg.nargs]; omega
    simp only [need, restK, List.length_cons, List.length_append, Nat.max_le]
    omega

theorem pathLoop_dot {T : Tables} {f : Nat} {root isF mE : Bool} {ops : List PathPart} {us : Bytes} {s : Sc} :
    pathLoop T (f + 1) root isF mE ops us (.rune 46) s =
      pathLoop T f root isF mE ops (us ++ [46]) (scan T s).1 (scan T s).2 := by
  conv => lhs; unfold pathLoop
  rfl

theorem pathLoop_ident {T : Tables} {f : Nat} {root isF mE : Bool} {ops : List PathPart} {us : Bytes} {s : Sc} (h : s.ch ≠ 40) :
    pathLoop T (f + 1) root isF mE ops us .ident s =
      pathLoop T f root isF mE (.ident (splitMark s.tok).1 (splitMark s.tok).2 s.tok :: ops) (us ++ s.tok)
        (scan T s).1 (scan T s).2 := by
  conv => lhs; unfold pathLoop
  simp [h]

theorem pathLoop_func {T : Tables} {f : Nat} {root isF mE : Bool} {ops : List PathPart} {us : Bytes} {s : Sc} (h : s.ch = 40)
    {p : PathPart} {r1 : TokKind} {s1 : Sc} (hp : parseFunc T f s = .ok p r1 s1) :
    pathLoop T (f + 1) root isF mE ops us .ident s = pathLoop T f root isF mE (p :: ops) (us ++ p.us) r1 s1 := by
  conv => lhs; unfold pathLoop
  simp [h, hp]

theorem pathLoop_call {T : Tables} (hT : PunctOK T) (hm : MarkOK T) (hp : ParenOK T) (hA : ArgOK T) {root : Bool} {e : Nat} {n : Bytes}
    {as : List Arg} {ss : List Seg} {f : Nat} {ops : List PathPart} {us : Bytes} (hk : Key T n) (has : ∀ a ∈ as, a.OK)
    (hss : ∀ x ∈ ss, x.OK T) (hf : 2 * as.length + 2 ≤ f) :
    pathLoop T (f + 2) root false false ops us (.rune 46) (mkS [46] e ((Seg.callA n as).text ++ restK ss)) =
      pathLoop T f root false false ((Seg.callA n as).part :: ops) (us ++ 46 :: (Seg.callA n as).text) (tokOf e ss).1 (tokOf e ss).2 := by
  obtain ⟨g, rfl⟩ : ∃ g, f = g + 2 * as.length + 2 := ⟨f - (2 * as.length + 2), by omega⟩
  have ha : Asc (40 :: (argsText as ++ restK ss)) := by simp [asc_argsText as has, asc_restK hm ss hss]
  rw [pathLoop_dot, show (Seg.callA n as).text ++ restK ss = n ++ 40 :: (argsText as ++ restK ss) by simp [Seg.text],
    scan_ident_mkS T hk.1 hk.idb (stopAt_punct T _ (by decide)) ha,
    pathLoop_func rfl (parseFunc_callA T hT hm hp hA e n as ss g hss has)]
  simp [Seg.part, Seg.text, PathPart.us]

theorem pathLoop_step {T : Tables} (hT : PunctOK T) (hm : MarkOK T) (hp : ParenOK T) (hA : ArgOK T) {root : Bool} {e : Nat} {sg : Seg}
    {ss : List Seg} {f : Nat} {ops : List PathPart} {us : Bytes} (hsg : sg.OK T) (hss : ∀ x ∈ ss, x.OK T) (hf : 2 * sg.nargs + 2 ≤ f) :
    pathLoop T (f + 2) root false false ops us (.rune 46) (mkS [46] e (sg.text ++ restK ss)) =
      pathLoop T f root false false (sg.part :: ops) (us ++ 46 :: sg.text) (tokOf e ss).1 (tokOf e ss).2 := by
  cases sg with
  | key k m =>
    have har : Asc (restK ss) := asc_restK hm ss hss
    have hch : (mkS (tokB (k, m)) e (restK ss)).ch ≠ 40 := by
      cases ss <;> simp [restK, mkS]
    rw [pathLoop_dot, Seg.text, scan_ident_mkS T (tokB_ne_nil m hsg) (idb_tokB hm m hsg) (stopAt_restK T ss) har,
      pathLoop_ident hch, mkS_tok, split_mark m hsg, scan_restK hT har]
    simp [Seg.part]
  | call n => exact pathLoop_call (as := []) hT hm hp hA hsg (by simp) hss hf
  | callS n a =>
    rw [Seg.callS_text, Seg.callS_part]
    exact pathLoop_call hT hm hp hA hsg.1 (by simpa [Arg.OK] using hsg.2) hss hf
  | callA n as => exact pathLoop_call hT hm hp hA hsg.1 hsg.2 hss hf

theorem pathLoop_keys (T : Tables) (hT : PunctOK T) (hm : MarkOK T) (hp : ParenOK T) (hA : ArgOK T) (root : Bool) (e : Nat)
    (ss : List Seg) (F : Nat) (ops : List PathPart) (us : Bytes) (hss : ∀ sg ∈ ss, sg.OK T) (hF : need ss ≤ F) :
    pathLoop T F root false false ops us (tokOf e ss).1 (tokOf e ss).2 =
      .ok (.mk false root false false (ops.reverse ++ keyParts ss) (us ++ restK ss)) (.rune 0) (mkS [] e []) := by
  induction ss generalizing F ops us with
  | nil =>
    obtain ⟨f, rfl, -⟩ := fuel_succ hF
    unfold pathLoop
    simp [tokOf, keyParts, restK]
  | cons sg ss ih =>
    obtain ⟨hsg, hrest⟩ := List.forall_mem_cons.mp hss
    simp only [need, Nat.max_le] at hF
    obtain ⟨f, rfl, h1⟩ := fuel_succ hF.1
    obtain ⟨f, rfl, h2⟩ := fuel_succ h1
    simp only [tokOf]
    rw [pathLoop_step hT hm hp hA hsg hrest (by omega), ih f _ _ hrest h2]
    simp [keyParts, restK]

theorem sprintParams_args (as : List Arg) : sprintParams (as.map Arg.param) ++ [41] = argsText as := by
  have hp : ∀ a : Arg, sprintParam a.param = a.text := by
    intro a
    cases a with
    | s x => simp [Arg.param, Arg.text, sprintParam]
    | b v => cases v <;> simp [Arg.param, Arg.text, sprintParam, str_true, str_false]
  induction as with
  | nil => rfl
  | cons a t ih =>
    cases t with
    | nil => simp [sprintParams, argsText, sepArgs, hp]
    | cons b t =>
      simp only [List.map_cons, sprintParams, List.append_assoc] at ih ⊢
      rw [ih]
      simp [argsText, sepArgs, hp]

theorem sprint_keyPath (root : Bool) (ss : List Seg) : sprintPath 0 (keyPath root ss) = rootB root :: restK ss := by
  have hpart : ∀ sg : Seg, sprintPart 0 sg.part = 46 :: sg.text := by
    intro sg
    cases sg with
    | key k m => cases m <;> simp [Seg.part, Seg.text, sprintPart, tokB]
    | call n => simp [Seg.part, Seg.text, sprintPart, sprintParams]
    | callS n a => simp [Seg.part, Seg.text, sprintPart, sprintParams, sprintParam]
    | callA n as => simp [Seg.part, Seg.text, sprintPart, ← sprintParams_args as]
  have hparts : sprintParts 0 (keyParts ss) = restK ss := by
    induction ss with
    | nil => rfl
    | cons sg ss ih => simp [keyParts, sprintParts, restK, hpart, ← ih]
  unfold keyPath sprintPath
  rw [hparts]
  cases root <;> simp [tabs, str_dollar, str_at, rootB]

theorem parsePath_root (T : Tables) (f : Nat) (root mE : Bool) (s : Sc) :
    parsePath T (f + 1) false mE (.rune (rootB root).toNat) s =
      pathLoop T f root false mE [] [rootB root] (scan T s).1 (scan T s).2 := by
  unfold parsePath
  cases root <;> simp [rootB, isRune, str_dollar, str_at]

theorem topLoop_root (T : Tables) (F : Nat) (root : Bool) (s : Sc) (p : PathOp) (r1 : TokKind) (s1 : Sc)
    (h : parsePath T (2 * s.rest.length + 16) false false (.rune (rootB root).toNat) s = .ok p r1 s1) :
    topLoop T (F + 1) none (.rune (rootB root).toNat) s = topLoop T F (some (.path p)) r1 s1 := by
  conv => lhs; unfold topLoop
  cases root <;> simp [rootB] at h ⊢ <;> rw [h]

theorem topLoop_end (T : Tables) (F : Nat) (t : TopOp) (s : Sc) : topLoop T (F + 1) (some t) (.rune 0) s = .op t := by
  unfold topLoop
  rfl

/-- C09: for `$` or `@` followed by any number of steps, each a key, a `?`-marked key or a call with any number of string and
    truth-value literals (names of ASCII identifier bytes; a string is any ASCII text without a backslash, its quotes and seven
    control characters printed escaped), the text Sprint prints parses back to exactly that path: same keys, marks, calls,
    "unknown function" flags, parameters and recorded text -/
theorem parse_sprint_keyPath (T : Tables) (hT : PunctOK T) (hat : AtOK T) (hm : MarkOK T) (hp : ParenOK T) (hA : ArgOK T) (root : Bool) (ss : List Seg)
    (hss : ∀ sg ∈ ss, sg.OK T) :
    (parse T (sprintPath 0 (keyPath root ss))).1 = .op (.path (keyPath root ss)) := by
  have hasc : Asc (restK ss) := asc_restK hm ss hss
  have hscan : scan T (Sc.init (rootB root :: restK ss)) = (.rune (rootB root).toNat, mkS [rootB root] 0 (restK ss)) := by
    cases root
    · exact scan_rune T 64 (by decide) hat (sxPrep_init _ (by simp [rootB, hasc]) rfl) hasc
    · exact scan_dollar T hT _ 0 _ (sxPrep_init _ (by simp [rootB, hasc]) rfl) hasc
  rw [sprint_keyPath root ss]
  unfold parse
  simp only [hscan, List.length_cons]
  rw [topLoop_root T _ root _ (keyPath root ss) (.rune 0) (mkS [] 0 []), topLoop_end]
  rw [parsePath_root, scan_restK hT hasc,
    pathLoop_keys T hT hm hp hA root 0 ss _ [] _ hss (by have := need_le ss hss; simp; omega)]
  simp [keyPath]

/-- so Sprint is a fixed point: print, parse, print again gives the same text -/
theorem sprint_parse_sprint (T : Tables) (hT : PunctOK T) (hat : AtOK T) (hm : MarkOK T) (hp : ParenOK T) (hA : ArgOK T) (root : Bool) (ss : List Seg)
    (hss : ∀ sg ∈ ss, sg.OK T) :
    ∃ p, (parse T (sprintPath 0 (keyPath root ss))).1 = .op (.path p) ∧ sprintPath 0 p = sprintPath 0 (keyPath root ss) :=
  ⟨keyPath root ss, parse_sprint_keyPath T hT hat hm hp hA root ss hss, rfl⟩

/-- the hypotheses can be met: by the ASCII tables, and `ab` is a key -/
example : PunctOK protoTables := ⟨by decide, by decide⟩
example : AtOK protoTables := by unfold AtOK; decide
example : ParenOK protoTables := ⟨by decide, by decide⟩
-- `+kernel`: see `punct_spec`
example : MarkOK protoTables := IdB.of_and (by decide +kernel)
example : ArgOK protoTables := ⟨by decide, fun b hb => .of_and (by revert b; decide +kernel)⟩
example : Key protoTables [97, 98] := ⟨by simp, fun b hb => ⟨.of_and (by revert b; decide +kernel), by revert b; decide⟩⟩

#print axioms parseFunc_call0
#print axioms parseFunc_callS
#print axioms funcLoop_args
#print axioms parseFunc_callA
#print axioms need_le
#print axioms pathLoop_keys
#print axioms sprint_keyPath
#print axioms parse_sprint_keyPath
#print axioms sprint_parse_sprint
end Mp
