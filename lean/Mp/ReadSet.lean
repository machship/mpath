import Mp.NonInterference
import Mp.AddressedPaths
import Mp.SortProofs
/-! C20: the read-set `rfPath` that `ni_path_full` is stated with lies within what the analysis model `rootPath` lists (the model
    of GetRootFieldsAccessed that is diffed with the real function); hence the top-level statements. Core-only. -/
namespace Mp

/-! `nrf*` (no rooted filter path): no path is both `$`-rooted and a filter path (the parser rejects `$` as a
    filter-body operand; evaluation of such a path is an error whatever the data) -/
mutual
def nrfPath : PathOp → Bool
  | .mk _ root isFilter _ ops _ => !(root && isFilter) && nrfParts ops
def nrfParts : List PathPart → Bool
  | [] => true
  | .ident _ _ _ :: rest => nrfParts rest
  | .filter lo _ :: rest => nrfLogic lo && nrfParts rest
  | .func _ _ params _ :: rest => nrfParams params && nrfParts rest
def nrfParams : List Param → Bool
  | [] => true
  | .path p :: rest => nrfPath p && nrfParams rest
  | .logic l :: rest => nrfLogic l && nrfParams rest
  | _ :: rest => nrfParams rest
def nrfLogic : LogicOp → Bool
  | .mk _ _ _ ops _ => nrfLParts ops
def nrfLParts : List LogicPart → Bool
  | [] => true
  | .path p :: rest => nrfPath p && nrfLParts rest
  | .logic l :: rest => nrfLogic l && nrfLParts rest
end

/-- `elabPart_func_sel` (EvalStruct.lean, C09, not imported here) also says which selector, through `selOf`; the walk below does not need it -/
theorem elabPart_func (T : Tables) (fuel : Nat) (i : Bool) (n : Bytes) (ps : List Param) (us : Bytes) :
    ∃ sel, elabPart T fuel (.func i n ps us) = EPart.func n (elabParams T fuel ps) sel := by
  unfold elabPart; exact ⟨_, rfl⟩

mutual
theorem rf_sub_path (T : Tables) (fuel : Nat) (p : PathOp) (h : nrfPath p = true) :
    ∀ k ∈ rfPath (elabPath T fuel p), k ∈ rootPath p := by
  cases p with
  | mk inv root isF me ops us =>
    simp only [nrfPath, Bool.and_eq_true, Bool.not_eq_true'] at h
    unfold elabPath rfPath rootPath
    intro k hk
    rcases List.mem_append.mp hk with h1 | h2
    · cases root with
      | false => cases h1
      | true =>
        obtain rfl : isF = false := by simpa using h.1
        cases ops with
        | nil => simp [elabParts] at h1
        | cons a rest =>
          cases a with
          | ident name prop us' =>
            obtain rfl : k = name := by simpa [elabParts, elabPart] using h1
            simp [rootParts]
          | filter lo us' => simp [elabParts, elabPart] at h1
          | func i n ps us' =>
            obtain ⟨sel, he⟩ := elabPart_func T fuel i n ps us'
            simp [elabParts, he] at h1
    · exact rf_sub_parts T fuel ops isF false h.2 k h2
termination_by structural p

theorem rf_sub_parts (T : Tables) (fuel : Nat) (ops : List PathPart) (isF seen : Bool) (h : nrfParts ops = true) :
    ∀ k ∈ rfParts (elabParts T fuel ops), k ∈ rootParts isF seen ops := by
  cases ops with
  | nil => intro k hk; simp [elabParts, rfParts] at hk
  | cons a rest =>
    cases a with
    | ident name prop us' =>
      simp only [nrfParts] at h
      simp only [elabParts, elabPart, rfParts, rfPart, List.nil_append]
      unfold rootParts
      intro k hk
      split
      · exact List.mem_cons_of_mem _ (rf_sub_parts T fuel rest isF true h k hk)
      · exact rf_sub_parts T fuel rest isF seen h k hk
    | filter lo us' =>
      simp only [nrfParts, Bool.and_eq_true] at h
      simp only [elabParts, elabPart, rfParts, rfPart, rootParts]
      exact mem_append_of (rf_sub_logic T fuel lo h.1) (rf_sub_parts T fuel rest isF seen h.2)
    | func i n ps us' =>
      simp only [nrfParts, Bool.and_eq_true] at h
      obtain ⟨sel, he⟩ := elabPart_func T fuel i n ps us'
      simp only [elabParts, he, rfParts, rfPart, rootParts]
      exact mem_append_of (rf_sub_params T fuel ps h.1) (rf_sub_parts T fuel rest isF seen h.2)
termination_by structural ops

theorem rf_sub_params (T : Tables) (fuel : Nat) (ps : List Param) (h : nrfParams ps = true) :
    ∀ k ∈ rfParams (elabParams T fuel ps), k ∈ rootParams ps := by
  cases ps with
  | nil => intro k hk; simp [elabParams, rfParams] at hk
  | cons a rest =>
    cases a with
    | path p =>
      simp only [nrfParams, Bool.and_eq_true] at h
      simp only [elabParams, elabParam, rfParams, rfParam, rootParams]
      exact mem_append_of (rf_sub_path T fuel p h.1) (rf_sub_params T fuel rest h.2)
    | logic l =>
      simp only [nrfParams, Bool.and_eq_true] at h
      simp only [elabParams, elabParam, rfParams, rfParam, rootParams]
      exact mem_append_of (rf_sub_logic T fuel l h.1) (rf_sub_params T fuel rest h.2)
    | _ =>
      simp only [nrfParams] at h
      simp only [elabParams, elabParam, rfParams, rfParam, List.nil_append, rootParams]
      exact rf_sub_params T fuel rest h
termination_by structural ps

theorem rf_sub_logic (T : Tables) (fuel : Nat) (l : LogicOp) (h : nrfLogic l = true) :
    ∀ k ∈ rfLogic (elabLogic T fuel l), k ∈ rootLogic l := by
  cases l with
  | mk inv isF ty ops us =>
    unfold elabLogic rfLogic rootLogic
    exact rf_sub_lparts T fuel ops h
termination_by structural l

theorem rf_sub_lparts (T : Tables) (fuel : Nat) (ops : List LogicPart) (h : nrfLParts ops = true) :
    ∀ k ∈ rfLParts (elabLParts T fuel ops), k ∈ rootLogicParts ops := by
  cases ops with
  | nil => intro k hk; simp [elabLParts, rfLParts] at hk
  | cons a rest =>
    cases a with
    | path p =>
      simp only [nrfLParts, Bool.and_eq_true] at h
      simp only [elabLParts, elabLPart, rfLParts, rfLPart, rootLogicParts]
      exact mem_append_of (rf_sub_path T fuel p h.1) (rf_sub_lparts T fuel rest h.2)
    | logic l =>
      simp only [nrfLParts, Bool.and_eq_true] at h
      simp only [elabLParts, elabLPart, rfLParts, rfLPart, rootLogicParts]
      exact mem_append_of (rf_sub_logic T fuel l h.1) (rf_sub_lparts T fuel rest h.2)
termination_by structural ops
end

theorem sPath_root_cur (isF : Bool) (ops : List EPart) (c1 c2 o : GoVal) :
    sPath (.mk true isF ops) c1 o = sPath (.mk true isF ops) c2 o :=
  rfl

/-- C20 (read-set half) for a parsed `$` path in which every `$` path begins with a key and none is a filter operand: two
    documents that answer alike on every root field the model of GetRootFieldsAccessed lists for it give the same outcome,
    whatever else was added to, removed from or changed in the document. -/
theorem C20_noninterference_root (T : Tables) (fuel : Nat) (inv isF me : Bool) (ops : List PathPart) (us : Bytes)
    (hn : nrfPath (.mk inv true isF me ops us) = true)
    (hw : wrPath (elabPath T fuel (.mk inv true isF me ops us)) = true)
    (d d' : GoVal) (ha : ∀ k ∈ rootPath (.mk inv true isF me ops us), identDo k d = identDo k d') :
    sPath (elabPath T fuel (.mk inv true isF me ops us)) d d = sPath (elabPath T fuel (.mk inv true isF me ops us)) d' d' := by
  rw [ni_path_full _ d d' hw (fun k hk => ha k (rf_sub_path T fuel _ hn k hk)) d]
  unfold elabPath
  exact sPath_root_cur _ _ _ _ _

/-- the same for a top-level `@` path that begins with a key -/
theorem C20_noninterference_at (T : Tables) (fuel : Nat) (inv me : Bool) (k : Bytes) (prop : Bool) (usk : Bytes)
    (rest : List PathPart) (us : Bytes)
    (hn : nrfPath (.mk inv false false me (.ident k prop usk :: rest) us) = true)
    (hw : wrPath (elabPath T fuel (.mk inv false false me (.ident k prop usk :: rest) us)) = true)
    (d d' : GoVal) (ha : ∀ x ∈ rootPath (.mk inv false false me (.ident k prop usk :: rest) us), identDo x d = identDo x d') :
    sPath (elabPath T fuel (.mk inv false false me (.ident k prop usk :: rest) us)) d d =
      sPath (elabPath T fuel (.mk inv false false me (.ident k prop usk :: rest) us)) d' d' := by
  -- at the top level the current value is the root, so the `@` path is the `$` path with the same operations
  have h := C20_noninterference_root T fuel inv false me (.ident k prop usk :: rest) us hn
    (by simpa [elabPath, elabParts, elabPart, wrPath] using hw) d d' ha
  unfold elabPath at h ⊢
  exact h

/-- the statement at the level of query text: what the driver (and, by correspondence, `ParseString` + `Do`) computes -/
theorem C20_query_noninterference (T : Tables) (q : Bytes) (inv isF me : Bool) (ops : List PathPart) (us : Bytes)
    (hp : (parse T q).1 = .op (.path (.mk inv true isF me ops us)))
    (hn : nrfPath (.mk inv true isF me ops us) = true)
    (hw : wrPath (elabPath T q.length (.mk inv true isF me ops us)) = true)
    (d d' : GoVal) (ha : ∀ k ∈ rootPath (.mk inv true isF me ops us), identDo k d = identDo k d') :
    sTop T q d = sTop T q d' := by
  unfold sTop
  rw [hp]
  exact C20_noninterference_root T q.length inv isF me ops us hn hw d d' ha

/-- agreeing on the returned list `rootTop` is agreeing on everything the walk `rootPath` collected -/
theorem rootTop_path_mem (p : PathOp) (x : Bytes) : x ∈ rootTop (.path p) ↔ x ∈ rootPath p := by
  unfold rootTop; exact mem_sortUniq x _

-- non-vacuity: `$.a.Equal($.b)` — the hypotheses hold, the list is [a, b]
def exQ : PathOp := .mk false true false false
  [.ident [97] false [97], .func false [69, 113, 117, 97, 108] [.path (.mk false true false false [.ident [98] false [98]] [])] []] []
example : nrfPath exQ = true := by decide
example : rootPath exQ = [[97], [98]] := by decide

#print axioms rf_sub_path
#print axioms C20_noninterference_root
#print axioms C20_noninterference_at
#print axioms C20_query_noninterference
end Mp
