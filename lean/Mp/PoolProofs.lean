/-! C08 — the pooled scanner of mpath.go: `Reset` re-installs mode and handler after `Init`; the deferred function of
    `ParseReadSeeker` clears `err` and `src`. Core-only. -/
namespace Pool

/-- the fields of mpath's `scanner` (and of the text/scanner inside) that survive between parses -/
structure Scn where
  customIdent : Bool        -- IsIdentRune: set once by the pool's New, never touched by Init
  modeOk : Bool             -- Mode = the seven flags mpath wants
  wsGo : Bool               -- Whitespace = GoWhitespace
  handler : Nat             -- 0 = nil (prints to stderr), 1 = silent, 2 = capturing
  err : Bool                -- s.err ≠ nil
  srcErr : Bool             -- a read error remembered by the wrapping reader
  dirtyBuf : Bool           -- buffer / look-ahead / position left over from the last input
deriving DecidableEq, Repr

/-- sync.Pool.New -/
def fresh : Scn := { customIdent := true, modeOk := true, wsGo := false, handler := 1, err := false, srcErr := false, dirtyBuf := false }

/-- Scanner.Init followed by what mpath's Reset adds -/
def reset (s : Scn) : Scn :=
  { s with modeOk := true, wsGo := true, handler := 1, srcErr := false, dirtyBuf := false }

/-- what a parse leaves behind (it may have hit errors; `faulted` = the reader failed) and the deferred clean-up -/
def afterParse (s : Scn) (faulted : Bool) : Scn := { s with dirtyBuf := true, srcErr := faulted }
def release (s : Scn) : Scn := { s with err := false, srcErr := false }

def PoolInv (s : Scn) : Prop := s.customIdent = true ∧ s.err = false

theorem fresh_inv : PoolInv fresh := ⟨rfl, rfl⟩

/-- `reset` overwrites every field that `PoolInv` leaves open -/
theorem reset_canonical (s : Scn) (h : PoolInv s) : reset s = reset fresh :=
  match s, h with
  | ⟨_, _, _, _, _, _, _⟩, ⟨rfl, rfl⟩ => rfl

theorem cycle_inv (s : Scn) (h : PoolInv s) (faulted : Bool) : PoolInv (release (afterParse (reset s) faulted)) :=
  ⟨h.1, rfl⟩

/-- a history of parses on one pooled scanner -/
def runHist : Scn → List Bool → Scn
  | s, [] => s
  | s, f :: t => runHist (release (afterParse (reset s) f)) t

theorem hist_inv : ∀ (h : List Bool) (s : Scn), PoolInv s → PoolInv (runHist s h) := by
  intro h
  induction h with
  | nil => intro s hs; exact hs
  | cons f t ih => intro s hs; exact ih _ (cycle_inv s hs f)

/-- C08: whatever was parsed before — including parses whose reader failed — the next parse starts from the one
    canonical configuration; so with `parseWith : Scn → Input → Result` reading only these fields, its result is a
    function of the input alone. -/
theorem history_independent {Input Result : Type} (parseWith : Scn → Input → Result)
    (hist : List Bool) (inp : Input) :
    parseWith (reset (runHist fresh hist)) inp = parseWith (reset fresh) inp := by
  rw [reset_canonical _ (hist_inv hist fresh fresh_inv)]

#print axioms history_independent
end Pool
