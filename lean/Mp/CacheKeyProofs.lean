import Mp.CacheProofs
/-! C16 — why the caches must be keyed by the texts themselves: `cache_transparent` is about a memo keyed by its argument,
    here it is keyed by `key arg` for an arbitrary `key` (a hash, a prefix, a length). This is the obligation that the
    regenerated fact `cache_skeleton` ("read and written under the key that IS the argument") discharges, and the reason why
    a broken fact makes the check search for two colliding texts. -/
namespace Mp

/-- the twin of `memo` (`Mp/CacheProofs.lean`), which is `memoK id`; `memo_spec` is `memoK_injective` at `key := id`, and both
    proofs take their one step from `good_cons_key` -/
def memoK {α} (key : String → String) (f : String → Option α) (k : String) (l : List (String × α)) : Option α × List (String × α) :=
  match find? (key k) l with
  | some v => (some v, l)
  | none => match f k with
    | none => (none, l)
    | some v => (some v, (key k, v) :: l)

/-- with an injective `key` the keyed memo meets `memo_spec`; `h` and the second conjunct are `Good` for a cache keyed by
    `key`, written out -/
theorem memoK_injective {α} (key : String → String) (hinj : ∀ a b, key a = key b → a = b) (f : String → Option α) (k : String)
    (l : List (String × α)) (h : ∀ a v, find? (key a) l = some v → f a = some v) :
    (memoK key f k l).1 = f k ∧ (∀ a v, find? (key a) (memoK key f k l).2 = some v → f a = some v) := by
  fun_cases memoK key f k l with
  | case1 v hf => exact ⟨(h k v hf).symm, h⟩
  | case2 hf hk => exact ⟨hk.symm, h⟩
  | case3 hf v hk => exact ⟨hk.symm, good_cons_key hinj h hk⟩

/-- two arguments that share a key and differ in value: after a call with the first, the second gets the first one's value -/
theorem memoK_collision_observable {α} (key : String → String) (f : String → Option α) (a b : String) (va vb : α)
    (hkey : key a = key b) (ha : f a = some va) (hb : f b = some vb) (hne : va ≠ vb) :
    (memoK key f b (memoK key f a []).2).1 ≠ f b := by
  have h1 : (memoK key f a []).2 = [(key a, va)] := by simp [memoK, find?, ha]
  rw [h1]
  have h2 : find? (key b) [(key a, va)] = some va := by simp [find?, hkey]
  simp only [memoK, h2, hb]
  intro h
  exact hne (Option.some.inj h)

/-- non-vacuity: keyed by the length of the text, "ab" gets the value of "xy" -/
example : (memoK (fun s => toString s.length) (fun s => some s) "ab" (memoK (fun s => toString s.length) (fun s => some s) "xy" []).2).1 = some "xy" := by decide

#print axioms memoK_injective
#print axioms memoK_collision_observable
end Mp
