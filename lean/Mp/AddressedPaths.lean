import Mp.Analysis
/-! C20, second half: what `AddressedPaths` returns, through a model of the de-duplication loop at the end of
    `opPath.AddressedPaths` / `opLogicalOperation.AddressedPaths`. -/
namespace Mp

def dedupStep (ret : List (List Bytes)) (val : List Bytes) : List (List Bytes) :=
  if !ret.contains val && !isPrefixOfSome val ret && !val.isEmpty then ret ++ [val] else ret

theorem dedupPaths_eq (l : List (List Bytes)) : dedupPaths l = l.foldl dedupStep [] := rfl

theorem dedupStep_sub (ret : List (List Bytes)) (val : List Bytes) : ∀ x ∈ ret, x ∈ dedupStep ret val := by
  intro x hx
  unfold dedupStep
  split
  · exact List.mem_append_left _ hx
  · exact hx

theorem foldl_dedup_sub (l : List (List Bytes)) : ∀ ret, ∀ x ∈ ret, x ∈ l.foldl dedupStep ret := by
  induction l with
  | nil => intro ret x hx; exact hx
  | cons a t ih => intro ret x hx; exact ih _ x (dedupStep_sub ret a x hx)

def Covered (v : List Bytes) (ret : List (List Bytes)) : Prop := ∃ r ∈ ret, v <+: r

theorem covered_mono {v : List Bytes} {ret ret' : List (List Bytes)} (h : ∀ x ∈ ret, x ∈ ret') : Covered v ret → Covered v ret' := by
  rintro ⟨r, hr, hp⟩
  exact ⟨r, h r hr, hp⟩

instance (v : List Bytes) (ret : List (List Bytes)) : Decidable (Covered v ret) :=
  inferInstanceAs (Decidable (∃ r ∈ ret, v <+: r))

theorem dedupStep_test {ret : List (List Bytes)} {val : List Bytes} :
    (!ret.contains val && !isPrefixOfSome val ret && !val.isEmpty) = true ↔ val ≠ [] ∧ ¬Covered val ret := by
  simp only [Bool.and_eq_true, Bool.not_eq_eq_eq_not, Bool.not_true, List.contains_eq_mem, decide_eq_false_iff_not, isPrefixOfSome,
    List.any_eq_false, List.isPrefixOf_iff_prefix, List.isEmpty_eq_false_iff]
  exact ⟨fun ⟨⟨_, h2⟩, h3⟩ => ⟨h3, fun ⟨r, hr, hp⟩ => h2 r hr ⟨hp, h3⟩⟩,
    fun ⟨hne, hc⟩ => ⟨⟨fun hm => hc ⟨val, hm, List.prefix_refl _⟩, fun r hr hp => hc ⟨r, hr, hp.1⟩⟩, hne⟩⟩

/-- the invariant of the loop; `done` is the candidate chains it has looked at -/
structure DedupInv (done ret : List (List Bytes)) : Prop where
  covers : ∀ v ∈ done, v ≠ [] → Covered v ret
  sub : ∀ x ∈ ret, x ∈ done ∧ x ≠ []
  nodup : ret.Nodup

theorem DedupInv.step {done ret : List (List Bytes)} (h : DedupInv done ret) (val : List Bytes) :
    DedupInv (done ++ [val]) (dedupStep ret val) := by
  have hsub : ∀ x ∈ ret, x ∈ done ++ [val] ∧ x ≠ [] := fun x hx => ⟨List.mem_append_left _ (h.sub x hx).1, (h.sub x hx).2⟩
  unfold dedupStep
  split
  · next ht =>
    obtain ⟨hne, hc⟩ := dedupStep_test.mp ht
    refine ⟨?_, List.forall_mem_append.mpr ⟨hsub, List.forall_mem_singleton.mpr ⟨List.mem_concat_self, hne⟩⟩, ?_⟩
    · simp only [List.forall_mem_append, List.forall_mem_singleton]
      exact ⟨fun v hv hv0 => covered_mono (fun x => List.mem_append_left _) (h.covers v hv hv0),
        fun _ => ⟨val, List.mem_concat_self, List.prefix_refl _⟩⟩
    · refine List.nodup_append.mpr ⟨h.nodup, by simp, fun a ha b hb => ?_⟩
      obtain rfl : b = val := by simpa using hb
      rintro rfl
      exact hc ⟨a, ha, List.prefix_refl _⟩
  · next ht =>
    refine ⟨?_, hsub, h.nodup⟩
    simp only [List.forall_mem_append, List.forall_mem_singleton]
    exact ⟨h.covers, fun hne => Decidable.not_not.mp fun hc => ht (dedupStep_test.mpr ⟨hne, hc⟩)⟩

theorem dedupPaths_inv (l : List (List Bytes)) : DedupInv l (dedupPaths l) := by
  suffices h : ∀ (l done ret : List (List Bytes)), DedupInv done ret → DedupInv (done ++ l) (l.foldl dedupStep ret) by
    simpa [dedupPaths_eq] using h l [] [] ⟨by simp, by simp, List.nodup_nil⟩
  intro l
  induction l with
  | nil => intro done ret h; simpa using h
  | cons a t ih => intro done ret h; simpa using ih _ _ (h.step a)

/-- `Covered v (dedupPaths l)`, spelt out -/
theorem dedupPaths_covers (l : List (List Bytes)) (v : List Bytes) (hv : v ∈ l) (hne : v ≠ []) :
    ∃ r ∈ dedupPaths l, v <+: r :=
  (dedupPaths_inv l).covers v hv hne

theorem dedupPaths_from (l : List (List Bytes)) : ∀ x ∈ dedupPaths l, x ∈ l ∧ x ≠ [] :=
  (dedupPaths_inv l).sub

theorem dedupPaths_nodup (l : List (List Bytes)) : (dedupPaths l).Nodup :=
  (dedupPaths_inv l).nodup

theorem addrTop_nodup (t : TopOp) : (addrTop t).Nodup := dedupPaths_nodup _

theorem addrTop_nonempty (t : TopOp) : ∀ x ∈ addrTop t, x ≠ [] := fun x hx => (dedupPaths_from _ x hx).2

theorem addrTop_from (t : TopOp) : ∀ x ∈ addrTop t, ∃ b, (x, b) ∈ apTop t := by
  intro x hx
  have := (dedupPaths_from _ x hx).1
  obtain ⟨c, hc, rfl⟩ := List.mem_map.mp this
  exact ⟨c.2, hc⟩

theorem addrTop_covers (t : TopOp) (c : List Bytes × Bool) (hc : c ∈ apTop t) (hne : c.1 ≠ []) : Covered c.1 (addrTop t) :=
  dedupPaths_covers _ c.1 (List.mem_map.mpr ⟨c, hc, rfl⟩) hne

def identsOf : List PathPart → List Bytes
  | [] => []
  | .ident name _ _ :: rest => name :: identsOf rest
  | _ :: rest => identsOf rest

theorem mem_apParts_append (root : Bool) (rest pre : List PathPart) (idents : List Bytes) :
    ∀ c ∈ apParts root (idents ++ identsOf pre) rest, c ∈ apParts root idents (pre ++ rest) := by
  induction pre generalizing idents with
  | nil => intro c hc; simpa [identsOf] using hc
  | cons o os ih =>
    intro c hc
    cases o with
    | ident name a b => exact ih (idents ++ [name]) c (by simpa [identsOf] using hc)
    | filter lo a => exact List.mem_append_right _ (ih idents c hc)
    | func a b params d => exact List.mem_append_right _ (ih idents c hc)

theorem apParts_idents_mem : ∀ (ops : List PathPart) (root : Bool) (idents : List Bytes),
    (idents ++ identsOf ops, root) ∈ apParts root idents ops := by
  intro ops root idents
  simpa using mem_apParts_append root [] ops idents _ (by simp [apParts])

theorem apPath_idents_mem {inv root isF me : Bool} {ops : List PathPart} {us : Bytes} (hne : ops ≠ []) :
    (identsOf ops, root) ∈ apPath (.mk inv root isF me ops us) := by
  unfold apPath
  cases ops with
  | nil => exact absurd rfl hne
  | cons o os => simpa using apParts_idents_mem (o :: os) root []

theorem apLogicParts_mem {p : PathOp} : ∀ {conds : List LogicPart}, LogicPart.path p ∈ conds → ∀ c ∈ apPath p, c ∈ apLogicParts conds
  | q :: qs, hmem, c, hc => by
    rcases List.mem_cons.mp hmem with rfl | h
    · exact List.mem_append_left _ hc
    · cases q <;> exact List.mem_append_right _ (apLogicParts_mem h c hc)

/-! `dc*` (dollar chains): the chain of keys of every `$` path of the query, wherever it stands — the query itself, an operand
    of a group, an argument (path or group) of a function, inside a filter condition at any depth. -/
mutual
def dcPath : PathOp → List (List Bytes)
  | .mk _ root _ _ ops _ => (if root && !ops.isEmpty then [identsOf ops] else []) ++ dcParts ops
def dcParts : List PathPart → List (List Bytes)
  | [] => []
  | .ident _ _ _ :: rest => dcParts rest
  | .filter lo _ :: rest => dcLogic lo ++ dcParts rest
  | .func _ _ params _ :: rest => dcParams params ++ dcParts rest
def dcParams : List Param → List (List Bytes)
  | [] => []
  | .path p :: rest => dcPath p ++ dcParams rest
  | .logic l :: rest => dcLogic l ++ dcParams rest
  | _ :: rest => dcParams rest
def dcLogic : LogicOp → List (List Bytes)
  | .mk _ _ _ ops _ => dcLParts ops
def dcLParts : List LogicPart → List (List Bytes)
  | [] => []
  | .path p :: rest => dcPath p ++ dcLParts rest
  | .logic l :: rest => dcLogic l ++ dcLParts rest
end

def dcTop : TopOp → List (List Bytes)
  | .path p => dcPath p
  | .logic l => dcLogic l

/-- at `f := id` this is `append_subset_append` of CueWalk.lean (C15), which imports the model only; also used by the walk in ReadSet.lean -/
theorem mem_append_of {α β : Type} {f : α → β} {A B : List α} {A' B' : List β}
    (hA : ∀ c ∈ A, f c ∈ A') (hB : ∀ c ∈ B, f c ∈ B') : ∀ c ∈ A ++ B, f c ∈ A' ++ B' :=
  fun c hc => (List.mem_append.mp hc).elim (fun h => List.mem_append_left _ (hA c h)) (fun h => List.mem_append_right _ (hB c h))

mutual
theorem dc_path (p : PathOp) : ∀ c ∈ dcPath p, (c, true) ∈ apPath p := by
  cases p with
  | mk inv root isF me ops us =>
    unfold dcPath
    cases ops with
    | nil => intro c hc; simp [dcParts] at hc
    | cons o os =>
      refine List.forall_mem_append.mpr ⟨?_, dc_parts (o :: os) root []⟩
      cases root with
      | false => nofun
      | true => exact List.forall_mem_singleton.mpr (apPath_idents_mem (by simp))
termination_by structural p
theorem dc_parts (ops : List PathPart) (root : Bool) (idents : List Bytes) : ∀ c ∈ dcParts ops, (c, true) ∈ apParts root idents ops := by
  cases ops with
  | nil => intro c hc; simp [dcParts] at hc
  | cons o os =>
    cases o with
    | ident name a b => unfold dcParts apParts; exact dc_parts os root (idents ++ [name])
    | filter lo a =>
      unfold dcParts apParts
      -- a chain of a `$` path inside the condition is marked as rooted and so passes the re-rooting unchanged
      exact mem_append_of (fun c h => List.mem_map.mpr ⟨(c, true), dc_logic lo c h, by simp⟩) (dc_parts os root idents)
    | func a b params d => unfold dcParts apParts; exact mem_append_of (dc_params params) (dc_parts os root idents)
termination_by structural ops
theorem dc_params (ps : List Param) : ∀ c ∈ dcParams ps, (c, true) ∈ apParams ps := by
  cases ps with
  | nil => intro c hc; simp [dcParams] at hc
  | cons q qs =>
    cases q with
    | path p => unfold dcParams apParams; exact mem_append_of (dc_path p) (dc_params qs)
    | logic l => unfold dcParams apParams; exact mem_append_of (dc_logic l) (dc_params qs)
    | _ => unfold dcParams apParams; exact dc_params qs
termination_by structural ps
theorem dc_logic (l : LogicOp) : ∀ c ∈ dcLogic l, (c, true) ∈ apLogic l := by
  cases l with
  | mk inv isF ty ops us => unfold dcLogic apLogic; exact dc_lparts ops
termination_by structural l
theorem dc_lparts (ops : List LogicPart) : ∀ c ∈ dcLParts ops, (c, true) ∈ apLogicParts ops := by
  cases ops with
  | nil => intro c hc; simp [dcLParts] at hc
  | cons o os =>
    cases o with
    | path p => unfold dcLParts apLogicParts; exact mem_append_of (dc_path p) (dc_lparts os)
    | logic l => unfold dcLParts apLogicParts; exact mem_append_of (dc_logic l) (dc_lparts os)
termination_by structural ops
end

/-- C20, AddressedPaths, cover: the chain of every `$` path of the query is equal to, or a prefix of, a returned path -/
theorem dollar_chains_covered (t : TopOp) (c : List Bytes) (hc : c ∈ dcTop t) (hne : c ≠ []) : Covered c (addrTop t) := by
  have hm : (c, true) ∈ apTop t := by
    cases t with
    | path p => exact dc_path p c hc
    | logic l => exact dc_logic l c hc
  exact addrTop_covers t (c, true) hm hne

theorem apParts_filter_mem (lo : LogicOp) (us : Bytes) (rest : List PathPart) (root : Bool) (c : List Bytes) (hc : (c, false) ∈ apLogic lo)
    (pre : List PathPart) (idents : List Bytes) :
    (idents ++ identsOf pre ++ c, root) ∈ apParts root idents (pre ++ .filter lo us :: rest) :=
  mem_apParts_append root _ pre idents _ (List.mem_append_left _ (List.mem_map.mpr ⟨(c, false), hc, by simp⟩))

/-- C20, AddressedPaths, filter conditions: for a path `root.k1…kn[ …, @.j1…jm…, … ]…` the chain k1…kn j1…jm — the chain of the condition
    prefixed by the chain of the collection it filters — is equal to, or a prefix of, a returned path -/
theorem filter_condition_chain_covered (inv root isF me : Bool) (us us' : Bytes) (pre rest : List PathPart)
    (linv lisF : Bool) (lty lus : Bytes) (conds : List LogicPart)
    (cinv cisF cme : Bool) (cus : Bytes) (cops : List PathPart) (hne : cops ≠ []) (hk : identsOf pre ++ identsOf cops ≠ [])
    (hmem : LogicPart.path (.mk cinv false cisF cme cops cus) ∈ conds) :
    Covered (identsOf pre ++ identsOf cops)
      (addrTop (.path (.mk inv root isF me (pre ++ .filter (.mk linv lisF lty conds lus) us' :: rest) us))) := by
  -- the condition's own chain is collected from the group, hence from the path with the keys before the filter in front
  have hcond : (identsOf cops, false) ∈ apLogic (.mk linv lisF lty conds lus) :=
    apLogicParts_mem hmem _ (apPath_idents_mem hne)
  have hall := apParts_filter_mem (.mk linv lisF lty conds lus) us' rest root (identsOf cops) hcond pre []
  refine addrTop_covers _ (_, root) ?_ hk
  unfold apTop apPath
  cases pre <;> simpa using hall

#print axioms dedupPaths_covers
#print axioms dedupPaths_from
#print axioms dedupPaths_nodup
#print axioms addrTop_nodup
#print axioms addrTop_nonempty
#print axioms addrTop_from
#print axioms addrTop_covers
#print axioms apParts_idents_mem
#print axioms dollar_chains_covered
#print axioms filter_condition_chain_covered
end Mp
