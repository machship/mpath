import Mp.ArrayFuncs
import Mp.AnyOfProofs
import Mp.SelectProofs
import Mp.SelectProject
/-! C17 — property theorems, proved in the imported modules; axioms audited here. -/
#print axioms Mp.count_spec
#print axioms Mp.asArray_spec
#print axioms Mp.first_spec
#print axioms Mp.last_spec
#print axioms Mp.first_empty
#print axioms Mp.last_empty
#print axioms Mp.index_spec
#print axioms Mp.index_out_of_range
#print axioms Mp.index_negative
#print axioms Mp.index_fractional
#print axioms Mp.first_eq_index0
#print axioms Mp.last_eq_index
#print axioms Mp.any_spec
#print axioms Mp.anyOf_dec_iff
#print axioms Mp.anyOf_str_iff
#print axioms Mp.selectOn_slice
#print axioms Mp.selectOn_array
#print axioms Mp.select_spec
#print axioms Mp.select_first_failure
#print axioms Mp.select_scalar_length
#print axioms Mp.L2.selectList_key
#print axioms Mp.L2.projection_eq_select
#print axioms Mp.L2.aggregate_projection_eq_select
#print axioms Mp.isIndex_scaled
#print axioms Mp.isIndex_up
#print axioms Mp.index_spec_of
#print axioms Mp.index_spec_scaled
#print axioms Mp.index_spec_up
#print axioms Mp.index_out_of_range_scaled
