import Mp.MarkProofs
import Mp.NullProofs
import Mp.NumeralProofs
import Mp.MarkIrrel
/-! C19 — property theorems, proved in the imported modules; axioms audited here. -/
#print axioms Mp.propagate
#print axioms Mp.missing_marked_key
#print axioms Mp.missing_unmarked_key
#print axioms Mp.isNotNull_neg
#print axioms Mp.isNotEmpty_neg
#print axioms Mp.isNotNullOrEmpty_neg
#print axioms Mp.isNullOrEmpty_disj
#print axioms Mp.isNull_table
#print axioms Mp.isEmpty_table
#print axioms Mp.null_predicates_reject_arguments
#print axioms Mp.splitMark_marked
#print axioms Mp.splitMark_unmarked
#print axioms Mp.Dec.ofString_alphabet
#print axioms Mp.Dec.not_numeral_of_foreign_byte
#print axioms Mp.Dec.empty_not_numeral
#print axioms Mp.sParts_append
#print axioms Mp.sParts_prev_irrel
#print axioms Mp.mark_irrelevant_head
#print axioms Mp.mark_irrelevant_on_present_key
#print axioms Mp.stopped_before
