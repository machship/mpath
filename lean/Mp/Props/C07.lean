import Mp.NoPanic
/-! C07 — evaluation is total: property theorems. -/
#print axioms Mp.eval_never_panics
#print axioms Mp.pureFunc_np
