import Mp.FoldProofs
import Mp.PathRefines
/-! C01 — property theorems, proved in the imported modules; axioms audited here. -/
#print axioms Mp.L2.findMapKey_spec
#print axioms Mp.L2.identDo_arr
#print axioms Mp.L2.path_refines
#print axioms Mp.L2.path_refines_struct
#print axioms Mp.L2.path_carrier_independent
#print axioms Mp.runeEqFold_ascii
#print axioms Mp.equalFold_ascii
