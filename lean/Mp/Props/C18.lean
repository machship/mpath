import Mp.StringCounts
import Mp.StringFuncs
import Mp.ReplaceAllProofs
import Mp.NumeralProofs
/-! C18 — string functions mean what their names say: property theorems. -/
#print axioms Mp.isInfix_iff
#print axioms Mp.contains_true_iff
#print axioms Mp.prefix_true_iff
#print axioms Mp.suffix_true_iff
#print axioms Mp.notContains_neg
#print axioms Mp.notPrefix_negOut
#print axioms Mp.notSuffix_neg
#print axioms Mp.left_take
#print axioms Mp.right_drop
#print axioms Mp.trimLeft_drop
#print axioms Mp.trimRight_take
#print axioms Mp.stringPart_negative
#print axioms Mp.stringPart_fractional
#print axioms Mp.replaceAll_no_occurrence
#print axioms Mp.replaceAll_first_occurrence
#print axioms Mp.replaceAll_pieces
#print axioms Mp.replaceAll_func
#print axioms Mp.replaceAll_empty_search
#print axioms Mp.stringPart_of
#print axioms Mp.left_take_scaled
#print axioms Mp.right_drop_scaled
#print axioms Mp.trimLeft_scaled
#print axioms Mp.trimRight_scaled
#print axioms Mp.Dec.ofString_alphabet
#print axioms Mp.Dec.not_numeral_of_foreign_byte
#print axioms Mp.Dec.empty_not_numeral
