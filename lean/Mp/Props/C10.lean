import Mp.JsonPath
import Mp.JsonDoc
import Mp.JsonProofs
import Mp.CarrierProofs
import Mp.PathRefines
import Mp.JsonOutProofs
/-! C10 — property theorems, proved in the imported modules; axioms audited here. -/
#print axioms Mp.sim_normalize
#print axioms Mp.func_carrier_independent
#print axioms Mp.L2.path_carrier_independent
#print axioms Mp.objectAsMap_struct
#print axioms Mp.objectAsMap_ptr_struct
#print axioms Mp.objectAsMap_ptr_map
#print axioms Mp.object_receiver_carrier_independent
#print axioms Mp.GoJson.pValue_render
#print axioms Mp.GoJson.parse_render
#print axioms Mp.GoJson.unmarshal_render_object
#print axioms Mp.GoJson.toGo_ofDoc
#print axioms Mp.GoJson.parseJSON_of_document
#print axioms Mp.GoJson.parseJSON_func
#print axioms Mp.GoJson.sPart_parseJSON
#print axioms Mp.GoJson.parseJSON_then_path
#print axioms Mp.GoJson.marshal_render
#print axioms Mp.GoJson.asJSON_func
#print axioms Mp.GoJson.asJSON_then_parseJSON
