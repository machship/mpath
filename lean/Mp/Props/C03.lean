import Mp.GroupProofs
import Mp.ParseLogicProofs
/-! C03 — logical groups are truth-functional AND / OR: property theorems. -/
#print axioms Mp.sLogic_bool
#print axioms Mp.sLParts_bool
#print axioms Mp.sLParts_truth
#print axioms Mp.logicLoop_keeps
#print axioms Mp.parseLogic_type
