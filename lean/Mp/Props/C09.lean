import Mp.SprintStruct
import Mp.EscProofs
import Mp.EscBridge
import Mp.RoundTrip
import Mp.RoundTripGo
import Mp.EvalStruct
/-! C09 — property theorems, proved in the imported modules; axioms audited here. -/
#print axioms Esc.literal_roundtrip
#print axioms Esc.seq_eq_sim
#print axioms Esc.unescape_order_independent
#print axioms Mp.unescape_eq_unescS
#print axioms Mp.escape_eq
#print axioms Mp.model_literal_roundtrip
#print axioms Mp.model_unescape_order_independent
#print axioms Mp.scanIdent_run
#print axioms Mp.scan_ident
#print axioms Mp.parseFunc_call0
#print axioms Mp.parseFunc_callS
#print axioms Mp.scan_string
#print axioms Mp.unescape_token
#print axioms Mp.pathLoop_keys
#print axioms Mp.sprint_keyPath
#print axioms Mp.parse_sprint_keyPath
#print axioms Mp.sprint_parse_sprint
#print axioms Mp.go_punct
#print axioms Mp.go_at
#print axioms Mp.go_paren
#print axioms Mp.go_mark
#print axioms Mp.parse_sprint_keyPath_go
#print axioms Mp.sprint_erPath
#print axioms Mp.sprint_of_same_structure
#print axioms Mp.sprintLogic_of_same_structure
#print axioms Mp.funcLoop_args
#print axioms Mp.parseFunc_callA
#print axioms Mp.go_arg
#print axioms Mp.elab_erPath
#print axioms Mp.selOf_er
#print axioms Mp.eval_of_same_structure
#print axioms Mp.evalLogic_of_same_structure
#print axioms Mp.elab_ignores_marks
