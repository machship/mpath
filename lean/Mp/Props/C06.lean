import Mp.ConvertProofs
/-! C06 — property theorems, proved in the imported modules; axioms audited here. -/
#print axioms Mp.convert_int
#print axioms Mp.convert_ptr_int
#print axioms Mp.receiver_int
#print axioms Mp.receiver_ptr_int
#print axioms Mp.convert_str
