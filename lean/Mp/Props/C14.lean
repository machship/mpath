import Mp.CueFunc3
import Mp.CueFunc
import Mp.CueFunc2
import Mp.ReturnKinds
import Mp.CueAstProofs
/-! C14 — property theorems, proved in the imported modules; axioms audited here. -/
#print axioms Mp.validOnOk_iff_admits
#print axioms Mp.every_row_admits_something
#print axioms Mp.returns_boolean
#print axioms Mp.returns_number
#print axioms Mp.returns_string
#print axioms Mp.reports_descriptor_type
#print axioms Mp.concrete_rows_not_known
#print axioms Mp.element_type_of_typed_list
#print axioms Mp.element_type_of_struct_list
#print axioms Mp.element_type_after_call
#print axioms Mp.lookup_self
#print axioms Mp.over_long_rejected
#print axioms Mp.asArray_twice_then_element
#print axioms Mp.asArray_once_then_element
#print axioms Mp.vParams_lits_some
#print axioms Mp.paramCheck_keeps_none
#print axioms Mp.over_long_literals_rejected
