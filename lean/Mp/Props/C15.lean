import Mp.CueSteps
import Mp.Deps
import Mp.CueDeps
import Mp.Tree
import Mp.CueWalk
import Mp.CueAstProofs
import Mp.CueAstBridge
import Mp.CueAstFProofs
/-! C15 — property theorems, proved in the imported modules; axioms audited here. -/
#print axioms Deps.closure_sound
#print axioms Deps.closure_complete
#print axioms Deps.closure_exact
#print axioms Mp.closure_bridge
#print axioms Mp.closure_model_exact
#print axioms Mp.blocked_iff
#print axioms Mp.blocked_first_key_rejected
#print axioms Mp.unblocked_first_key
#print axioms Mp.blocked_only_first_key
#print axioms Mp.first_key_blocked
#print axioms Mp.Tree.hasErrors_step
#print axioms Mp.Tree.call_hasErrors
#print axioms Mp.Tree.param_hasErrors
#print axioms Mp.Tree.call_param_anywhere
#print axioms Mp.Tree.logic_hasErrors
#print axioms Mp.Tree.path_hasErrors
#print axioms Mp.Tree.hasErrors_sound
#print axioms Mp.Tree.hasErrors_complete
#print axioms Mp.Tree.hasErrors_eq_anyNode
#print axioms Mp.Tree.ident_filter_not_consulted
#print axioms Mp.offered_iff
#print axioms Mp.offered_exact
#print axioms Mp.offered_coherent
#print axioms Mp.firstKey_checked
#print axioms Mp.dollar_heads_checked
#print axioms Mp.rejected_wherever
#print axioms Mp.top_at_head_checked
#print axioms Mp.top_group_at_head_checked
#print axioms Mp.unavailable_iff
#print axioms Mp.below_root_keys_not_checked
#print axioms Mp.only_first_key_checked
#print axioms Mp.finishKeys_blocked
#print axioms Mp.stopped_keeps
#print axioms Mp.keys_blocked
#print axioms Mp.blocked_head_errs
#print axioms Mp.blocked_head_never_accepted
#print axioms Mp.accepted_head_not_blocked
#print axioms Mp.acc_path
#print axioms Mp.acc_parts
#print axioms Mp.acc_params
#print axioms Mp.acc_logic
#print axioms Mp.accepted_reads_no_blocked_field
#print axioms Mp.validateKeys_acc_found
#print axioms Mp.vParts_idents
#print axioms Mp.vTop_key_path
#print axioms Mp.ext_path
#print axioms Mp.ext_parts
#print axioms Mp.ext_params
#print axioms Mp.ext_logic
#print axioms Mp.vTopF_extends_vTop
#print axioms Mp.finishKeysB_below_root
#print axioms Mp.keys_below_root_not_blocked
#print axioms Mp.at_path_below_root_ignores_blocked
