import Mp.NonInterference
import Mp.ReadSet
import Mp.SortProofs
import Mp.Analysis
import Mp.AddressedPaths
/-! C20 — property theorems, proved in the imported modules; axioms audited here. -/
#print axioms Mp.ni_path_full
#print axioms Mp.rf_sub_path
#print axioms Mp.C20_noninterference_root
#print axioms Mp.C20_noninterference_at
#print axioms Mp.C20_query_noninterference
#print axioms Mp.rootTop_path_mem
#print axioms Mp.rootTop_sorted_nodup
#print axioms Mp.dedupPaths_covers
#print axioms Mp.dedupPaths_from
#print axioms Mp.dedupPaths_nodup
#print axioms Mp.addrTop_nodup
#print axioms Mp.addrTop_nonempty
#print axioms Mp.addrTop_from
#print axioms Mp.addrTop_covers
#print axioms Mp.apParts_idents_mem
#print axioms Mp.dollar_chains_covered
#print axioms Mp.filter_condition_chain_covered
