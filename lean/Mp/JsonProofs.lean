import Mp.Json
/-! C10, the first half at the level of the model: the JSON parser on the compact text of a document. Numbers go through the float
    model and are covered by the correspondence run, not here. Core-only. -/
namespace Mp.GoJson

/-- a byte that can stand in a JSON string as it is -/
def SafeByte (c : UInt8) : Prop := c ≠ 34 ∧ c ≠ 92 ∧ 32 ≤ c.toNat ∧ c.toNat < 128
def Safe (s : Bytes) : Prop := ∀ c ∈ s, SafeByte c

def quote (s : Bytes) : Bytes := [34] ++ s ++ [34]

mutual
/-- the compact text json.Marshal writes for a document without numbers -/
def render : J → Bytes
  | .null => [110, 117, 108, 108]
  | .bool true => [116, 114, 117, 101]
  | .bool false => [102, 97, 108, 115, 101]
  | .num t => t
  | .str s => quote s
  | .arr [] => [91, 93]
  | .arr (x :: xs) => [91] ++ render x ++ renderElems xs
  | .obj [] => [123, 125]
  | .obj ((k, v) :: kvs) => [123] ++ quote k ++ [58] ++ render v ++ renderMembers kvs
/-- the rest of an array after an element: `,x…]` or `]` -/
def renderElems : List J → Bytes
  | [] => [93]
  | x :: xs => [44] ++ render x ++ renderElems xs
def renderMembers : List (Bytes × J) → Bytes
  | [] => [125]
  | (k, v) :: kvs => [44] ++ quote k ++ [58] ++ render v ++ renderMembers kvs
end

mutual
/-- documents the theorem speaks about: no numbers, strings and keys of safe bytes -/
def Good : J → Prop
  | .null => True
  | .bool _ => True
  | .num _ => False
  | .str s => Safe s
  | .arr xs => GoodList xs
  | .obj kvs => GoodMembers kvs
def GoodList : List J → Prop
  | [] => True
  | x :: xs => Good x ∧ GoodList xs
def GoodMembers : List (Bytes × J) → Prop
  | [] => True
  | (k, v) :: kvs => Safe k ∧ Good v ∧ GoodMembers kvs
end

mutual
/-- the fuel `pValue` needs for the text of a document: one unit for each value and one for each round of the element / member
    loop; never more than the length of the text (`size_le_length`), which is why the fuel `parse` hands out is enough -/
def size : J → Nat
  | .arr xs => 1 + sizeList xs
  | .obj kvs => 1 + sizeMembers kvs
  | _ => 1
def sizeList : List J → Nat
  | [] => 0
  | x :: xs => size x + sizeList xs + 1
def sizeMembers : List (Bytes × J) → Nat
  | [] => 0
  | (_, v) :: kvs => size v + sizeMembers kvs + 1
end

theorem pStringBody_safe (s rest : Bytes) (h : Safe s) : pStringBody (s ++ 34 :: rest) = .ok s rest := by
  induction s with
  | nil => rfl
  | cons c t ih =>
    obtain ⟨h1, h2, h3, h4⟩ := h c List.mem_cons_self
    simp [pStringBody, h1, h2, Nat.not_lt.mpr h3, h4, ih (fun x hx => h x (List.mem_cons_of_mem _ hx))]

theorem skipWs_nonws (c : UInt8) (t : Bytes) (h : isWs c = false) : skipWs (c :: t) = c :: t := by
  simp [skipWs, h]

theorem startsWith_append (p rest : Bytes) : startsWith p (p ++ rest) = some rest := by
  simp [startsWith, List.prefix_append]

theorem render_obj_isEmpty (kvs : List (Bytes × J)) : (render (.obj kvs)).isEmpty = false := by
  rcases kvs with _ | ⟨⟨k, v⟩, kvs⟩ <;> rfl

/-- the text between the brackets of a non-empty array / object -/
def elemsBody : List J → Bytes
  | [] => []
  | x :: xs => render x ++ renderElems xs
def membersBody : List (Bytes × J) → Bytes
  | [] => []
  | (k, v) :: kvs => quote k ++ [58] ++ render v ++ renderMembers kvs

theorem renderElems_cons (x : J) (xs : List J) : renderElems (x :: xs) = 44 :: elemsBody (x :: xs) := rfl
theorem renderMembers_cons (kv : Bytes × J) (kvs : List (Bytes × J)) : renderMembers (kv :: kvs) = 44 :: membersBody (kv :: kvs) := rfl
theorem membersBody_cons (k : Bytes) (v : J) (kvs : List (Bytes × J)) (rest : Bytes) :
    membersBody ((k, v) :: kvs) ++ rest = 34 :: (k ++ 34 :: 58 :: (render v ++ (renderMembers kvs ++ rest))) := by
  simp [membersBody, quote]

theorem pValue_str (fuel : Nat) (s rest : Bytes) (h : Safe s) : pValue (fuel + 1) (quote s ++ rest) = .ok (.str s) rest := by
  have e : quote s ++ rest = 34 :: (s ++ 34 :: rest) := by simp [quote]
  rw [e, pValue, skipWs_nonws 34 _ (by decide)]
  simp only [pStringBody_safe s rest h]

theorem pValue_arr (fuel : Nat) (x : J) (xs : List J) (h : Good x) (rest : Bytes) :
    pValue (fuel + 1) (91 :: (elemsBody (x :: xs) ++ rest)) = pElems fuel (elemsBody (x :: xs) ++ rest) [] := by
  -- whatever `x` is, its text begins with a byte that is neither white space nor `]`
  cases x with
  | null => rfl
  | bool b => cases b <;> rfl
  | num t => exact h.elim
  | str s => rfl
  | arr ys => cases ys <;> rfl
  | obj kvs => rcases kvs with _ | ⟨⟨k, v⟩, kvs⟩ <;> rfl

theorem pValue_obj (fuel : Nat) (kv : Bytes × J) (kvs : List (Bytes × J)) (rest : Bytes) :
    pValue (fuel + 1) (123 :: (membersBody (kv :: kvs) ++ rest)) = pMembers fuel (membersBody (kv :: kvs) ++ rest) [] := rfl

mutual
theorem pValue_render (d : J) (h : Good d) (fuel : Nat) (rest : Bytes) (hf : size d < fuel) :
    pValue fuel (render d ++ rest) = .ok d rest := by
  cases fuel with
  | zero => omega
  | succ fuel =>
    cases d with
    | null => rfl
    | bool b => cases b <;> rfl
    | num t => exact h.elim
    | str s => exact pValue_str fuel s rest h
    | arr xs =>
      cases xs with
      | nil => rfl
      | cons x xs =>
        exact (pValue_arr fuel x xs h.1 rest).trans (pElems_render (x :: xs) h [] fuel rest (by simp) (by rw [size] at hf; omega))
    | obj kvs =>
      cases kvs with
      | nil => rfl
      | cons kv kvs =>
        exact (pValue_obj fuel kv kvs rest).trans (pMembers_render (kv :: kvs) h [] fuel rest (by simp) (by rw [size] at hf; omega))
termination_by structural d
theorem pElems_render (l : List J) (hl : GoodList l) : ∀ (acc : List J) (fuel : Nat) (rest : Bytes), l ≠ [] →
    sizeList l < fuel → pElems fuel (elemsBody l ++ rest) acc = .ok (.arr (acc ++ l)) rest := by
  intro acc fuel rest hne hf
  cases l with
  | nil => exact absurd rfl hne
  | cons x xs =>
    rw [sizeList] at hf
    cases fuel with
    | zero => omega
    | succ fuel =>
      rw [pElems, elemsBody, List.append_assoc, pValue_render x hl.1 fuel (renderElems xs ++ rest) (by omega)]
      cases xs with
      | nil => rfl
      | cons y ys =>
        simpa [renderElems_cons, skipWs, isWs] using pElems_render (y :: ys) hl.2 (acc ++ [x]) fuel rest (by simp) (by omega)
termination_by structural l
theorem pMembers_render (l : List (Bytes × J)) (hl : GoodMembers l) : ∀ (acc : List (Bytes × J)) (fuel : Nat) (rest : Bytes), l ≠ [] →
    sizeMembers l < fuel → pMembers fuel (membersBody l ++ rest) acc = .ok (.obj (acc ++ l)) rest := by
  intro acc fuel rest hne hf
  cases l with
  | nil => exact absurd rfl hne
  | cons kv kvs =>
    obtain ⟨k, v⟩ := kv
    rw [sizeMembers] at hf
    cases fuel with
    | zero => omega
    | succ fuel =>
      rw [membersBody_cons, pMembers, skipWs_nonws 34 _ (by decide)]
      simp only [pStringBody_safe k _ hl.1, skipWs_nonws 58 _ (by decide : isWs 58 = false),
        pValue_render v hl.2.1 fuel (renderMembers kvs ++ rest) (by omega)]
      cases kvs with
      | nil => rfl
      | cons kv2 kvs2 =>
        simpa [renderMembers_cons, skipWs, isWs] using
          pMembers_render (kv2 :: kvs2) hl.2.2 (acc ++ [(k, v)]) fuel rest (by simp) (by omega)
termination_by structural l
end

mutual
theorem size_le_length (d : J) (h : Good d) : size d ≤ (render d).length := by
  cases d with
  | null => decide
  | bool b => cases b <;> decide
  | num t => exact h.elim
  | str s => simp [size, render, quote]
  | arr xs =>
    cases xs with
    | nil => decide
    | cons x xs =>
      -- the texts of `.arr (x :: xs)` and `renderElems (x :: xs)` differ in the first byte only
      rw [size, Nat.add_comm]
      exact sizeList_le_length (x :: xs) h
  | obj kvs =>
    cases kvs with
    | nil => decide
    | cons kv kvs =>
      rw [size, Nat.add_comm]
      exact sizeMembers_le_length (kv :: kvs) h
termination_by structural d
theorem sizeList_le_length (xs : List J) (h : GoodList xs) : sizeList xs + 1 ≤ (renderElems xs).length := by
  cases xs with
  | nil => decide
  | cons x xs =>
    have h1 := size_le_length x h.1
    have h2 := sizeList_le_length xs h.2
    simp [sizeList, renderElems]
    omega
termination_by structural xs
theorem sizeMembers_le_length (kvs : List (Bytes × J)) (h : GoodMembers kvs) : sizeMembers kvs + 1 ≤ (renderMembers kvs).length := by
  cases kvs with
  | nil => decide
  | cons kv kvs =>
    obtain ⟨k, v⟩ := kv
    have h1 := size_le_length v h.2.1
    have h2 := sizeMembers_le_length kvs h.2.2
    simp [sizeMembers, renderMembers, quote]
    omega
termination_by structural kvs
end

/-- C10, "a document produced inside the query by ParseJSON from its serialised text behaves like the document itself":
    parsing the compact JSON text of a document (objects, arrays, strings, booleans, null; any size, any nesting) gives it back -/
theorem parse_render (d : J) (h : Good d) : parse (render d) = .ok d [] := by
  have := pValue_render d h ((render d).length + 2) [] (by have := size_le_length d h; omega)
  rw [List.append_nil] at this
  simp [parse, this, skipWs]

/-- … and so does `json.Unmarshal(text, &map[string]any{})` of the model for an object: the map the conversion `toGo` makes of it -/
theorem unmarshal_render_object (kvs : List (Bytes × J)) (h : Good (.obj kvs)) :
    unmarshalObject (render (.obj kvs)) = some (toGo (.obj kvs)) := by
  unfold unmarshalObject
  rw [parse_render _ h]

example : parse (render (.obj [([107], .arr [.bool true, .null, .str [97, 98]]), ([113], .obj [])])) =
    .ok (.obj [([107], .arr [.bool true, .null, .str [97, 98]]), ([113], .obj [])]) [] :=
  parse_render _ (by simp only [Good, GoodMembers, GoodList, Safe, SafeByte]; decide)

#print axioms pValue_render
#print axioms parse_render
#print axioms unmarshal_render_object
end Mp.GoJson
