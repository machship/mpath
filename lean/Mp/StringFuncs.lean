import Mp.PureFuncEqs
import Mp.IndexProofs
/-! C18 — the substring family means what the names say (core-only proofs over the evaluator model). -/
namespace Mp

theorem isInfix_iff (p s : Bytes) : isInfix p s = true ↔ p <:+: s := by
  unfold isInfix
  induction s with
  | nil => simp [isInfix.go]
  | cons c t ih =>
    rw [List.length_cons, isInfix.go, Bool.if_true_left, Bool.decide_eq_true, Bool.or_eq_true, List.isPrefixOf_iff_prefix, ih,
      List.infix_cons_iff]

/-- C18: Contains on a string receiver and a string argument is the substring test -/
theorem contains_spec (s p : Bytes) : pureFunc "Contains" [.str p] (.str false s) = some (okBool (isInfix p s)) := by
  rw [pureFunc_Contains, Fn.strBool_str, Bool.bne_false]

theorem prefix_spec (s p : Bytes) : pureFunc "Prefix" [.str p] (.str false s) = some (okBool (p.isPrefixOf s)) := by
  rw [pureFunc_Prefix, Fn.strBool_str, Bool.bne_false]

theorem suffix_spec (s p : Bytes) : pureFunc "Suffix" [.str p] (.str false s) = some (okBool (p.isSuffixOf s)) := by
  rw [pureFunc_Suffix, Fn.strBool_str, Bool.bne_false]

theorem contains_true_iff (s p : Bytes) :
    pureFunc "Contains" [.str p] (.str false s) = some (okBool true) ↔ ∃ a b, s = a ++ p ++ b := by
  rw [contains_spec, Option.some_inj, okBool_inj, isInfix_iff]
  exact exists_congr fun _ => exists_congr fun _ => eq_comm

theorem prefix_true_iff (s p : Bytes) :
    pureFunc "Prefix" [.str p] (.str false s) = some (okBool true) ↔ ∃ b, s = p ++ b := by
  rw [prefix_spec, Option.some_inj, okBool_inj, List.isPrefixOf_iff_prefix]
  exact exists_congr fun _ => eq_comm

theorem suffix_true_iff (s p : Bytes) :
    pureFunc "Suffix" [.str p] (.str false s) = some (okBool true) ↔ ∃ a, s = a ++ p := by
  rw [suffix_spec, Option.some_inj, okBool_inj, List.isSuffixOf_iff_suffix]
  exact exists_congr fun _ => eq_comm

-- the same function as `negB` of NullProofs.lean, which this module does not import
def negOut (o : Out) : Out := match o with | .ok (.bool n b) => .ok (.bool n (!b)) | o => o

theorem Fn.strBool_inv (ps : List Prm) (v : GoVal) (f : Bytes → Bytes → Bool) :
    Fn.strBool ps v f true = negOut (Fn.strBool ps v f false) := by
  unfold Fn.strBool
  split
  · rfl
  · split
    · simp [negOut, okBool]
    · rfl

/-- C18: the Not-forms are the exact negations of the plain forms on EVERY receiver and argument list,
    and fail exactly when the plain form fails -/
theorem notContains_neg (ps : List Prm) (v : GoVal) :
    pureFunc "NotContains" ps v = (pureFunc "Contains" ps v).map negOut := by
  simp [Fn.strBool_inv]

theorem notPrefix_negOut (ps : List Prm) (v : GoVal) :
    pureFunc "NotPrefix" ps v = (pureFunc "Prefix" ps v).map negOut := by
  simp [Fn.strBool_inv]

theorem notSuffix_neg (ps : List Prm) (v : GoVal) :
    pureFunc "NotSuffix" ps v = (pureFunc "Suffix" ps v).map negOut := by
  simp [Fn.strBool_inv]

/-- C18: `notPrefix_negOut` with `negOut` written out -/
theorem notPrefix_neg (ps : List Prm) (v : GoVal) :
    pureFunc "NotPrefix" ps v = (pureFunc "Prefix" ps v).map (fun o => match o with | .ok (.bool n b) => .ok (.bool n (!b)) | o => o) :=
  notPrefix_negOut ps v

theorem stringPart_num (d : Dec) (s : Bytes) (f : Bytes → Nat → Bytes) :
    stringPart [.num d] (.str false s) f =
      if !d.isInteger then .err else if d.isNegative then .err else
      okStr (f s (if Dec.cmp d ⟨2147483647, 0⟩ == .lt then d.intPart.toNat else 2147483647)) := rfl

theorem stringPart_of (s : Bytes) (d : Dec) (k : Nat) (hd : IsIndex d k) (hk : k < 2147483647) (f : Bytes → Nat → Bytes) :
    stringPart [.num d] (.str false s) f = okStr (f s k) := by
  obtain ⟨h1, h2, h3, h4⟩ := hd
  have h5 : Dec.cmp d ⟨2147483647, 0⟩ = .lt := (h4 2147483647).trans (Nat.compare_eq_lt.mpr hk)
  simp [stringPart_num, h1, h2, h3, h5]

/-- C18: Left / Right / TrimLeft / TrimRight are take / drop, clamped at the length (bytes; characters for ASCII) -/
theorem left_take (s : Bytes) (k : Nat) (hk : k < 2147483647) :
    pureFunc "Left" [.num ⟨k, 0⟩] (.str false s) = some (okStr (s.take k)) := by
  rw [pureFunc_Left, stringPart_of s _ k (isIndex_nat k (by omega)) hk]
  split
  · rw [List.take_of_length_le (Nat.le_of_lt ‹_›)]
  · rfl

/-- C18: `left_take`, under the name DESIGN.md lists it by -/
theorem left_spec (s : Bytes) (k : Nat) (hk : k < 2147483647) :
    pureFunc "Left" [.num ⟨k, 0⟩] (.str false s) = some (okStr (s.take k)) :=
  left_take s k hk

theorem right_drop (s : Bytes) (k : Nat) (hk : k < 2147483647) :
    pureFunc "Right" [.num ⟨k, 0⟩] (.str false s) = some (okStr (s.drop (s.length - k))) := by
  rw [pureFunc_Right, stringPart_of s _ k (isIndex_nat k (by omega)) hk]
  split
  · rw [Nat.sub_eq_zero_of_le (Nat.le_of_lt ‹_›), List.drop_zero]
  · rfl

theorem trimLeft_drop (s : Bytes) (k : Nat) (hk : k < 2147483647) :
    pureFunc "TrimLeft" [.num ⟨k, 0⟩] (.str false s) = some (okStr (s.drop k)) := by
  rw [pureFunc_TrimLeft, stringPart_of s _ k (isIndex_nat k (by omega)) hk]
  split
  · rw [List.drop_of_length_le ‹_›]
  · rfl

theorem trimRight_take (s : Bytes) (k : Nat) (hk : k < 2147483647) :
    pureFunc "TrimRight" [.num ⟨k, 0⟩] (.str false s) = some (okStr (s.take (s.length - k))) := by
  rw [pureFunc_TrimRight, stringPart_of s _ k (isIndex_nat k (by omega)) hk]
  split
  · rw [Nat.sub_eq_zero_of_le ‹_›, List.take_zero]
  · rfl

/-- Left and TrimLeft split the string, as do TrimRight and Right: nothing is lost or duplicated -/
theorem left_trimLeft_partition (s : Bytes) (k : Nat) : s.take k ++ s.drop k = s := List.take_append_drop k s
theorem trimRight_right_partition (s : Bytes) (k : Nat) : s.take (s.length - k) ++ s.drop (s.length - k) = s :=
  List.take_append_drop _ s

/-- a negative or fractional count is an error, never a panic and never a string -/
theorem stringPart_negative (s : Bytes) (d : Dec) (hneg : d.isNegative = true) (f : Bytes → Nat → Bytes) :
    stringPart [.num d] (.str false s) f = .err := by
  simp [stringPart_num, hneg]

theorem stringPart_fractional (s : Bytes) (d : Dec) (hfr : d.isInteger = false) (f : Bytes → Nat → Bytes) :
    stringPart [.num d] (.str false s) f = .err := by
  simp [stringPart_num, hfr]

example : pureFunc "Contains" [.str [98, 99]] (.str false [97, 98, 99, 100]) = some (okBool true) :=
  (contains_true_iff _ _).mpr ⟨[97], [100], rfl⟩
example : pureFunc "Left" [.num ⟨2, 0⟩] (.str false [97, 98, 99]) = some (okStr [97, 98]) :=
  left_take [97, 98, 99] 2 (by omega)

#print axioms isInfix_iff
#print axioms contains_true_iff
#print axioms prefix_true_iff
#print axioms suffix_true_iff
#print axioms notContains_neg
#print axioms notPrefix_negOut
#print axioms notSuffix_neg
#print axioms left_take
#print axioms left_spec
#print axioms right_drop
#print axioms trimLeft_drop
#print axioms trimRight_take
#print axioms stringPart_negative
#print axioms stringPart_fractional
#print axioms stringPart_of
end Mp
