/-! C09 — the string-literal escape / unescape pair over an abstract alphabet (`Mp.EscBridge` puts in the bytes of the
    model). In the Go code (opFunction.go) `unescape` is eight whole-string `strings.Replace` passes in the (random) iteration
    order of a map; `escape` maps single bytes. Core-only. -/
namespace Esc

variable {α : Type} [DecidableEq α]

def lookup (S : List (α × α)) (c : α) : Option α :=
  match S with
  | [] => none
  | (c', o) :: t => if c' = c then some o else lookup t c

/-- inverse: the pattern letter of the rule whose output is `o` -/
def invLookup (S : List (α × α)) (o : α) : Option α :=
  match S with
  | [] => none
  | (c, o') :: t => if o' = o then some c else invLookup t o

/-- one simultaneous left-to-right pass for a rule set; `bs` is the backslash -/
def unescS (bs : α) (S : List (α × α)) : List α → List α
  | [] => []
  | [x] => [x]
  | x :: y :: t =>
    if x = bs then
      match lookup S y with
      | some o => o :: unescS bs S t
      | none => bs :: unescS bs S (y :: t)
    else x :: unescS bs S (y :: t)

/-- strings.Replace(s, [bs, c], [o], -1) -/
def pass (bs c o : α) : List α → List α
  | [] => []
  | [x] => [x]
  | x :: y :: t => if x = bs ∧ y = c then o :: pass bs c o t else x :: pass bs c o (y :: t)

def escChar (bs : α) (S : List (α × α)) (o : α) : List α :=
  match invLookup S o with
  | some c => [bs, c]
  | none => [o]

def escape (bs : α) (S : List (α × α)) : List α → List α
  | [] => []
  | o :: t => escChar bs S o ++ escape bs S t

/-- no bad pair: no backslash directly before a pattern letter that `escape` would leave alone -/
def NoBad (bs : α) (S : List (α × α)) : List α → Prop
  | [] => True
  | [_] => True
  | x :: y :: t => ¬ (x = bs ∧ (lookup S y).isSome ∧ (invLookup S y).isNone) ∧ NoBad bs S (y :: t)

/-- no rule mentions the backslash; patterns and outputs are each distinct -/
structure WF (bs : α) (S : List (α × α)) : Prop where
  inv_lookup : ∀ o c, invLookup S o = some c → lookup S c = some o
  bs_not_out : invLookup S bs = none
  bs_not_pat : lookup S bs = none
  lookup_inv : ∀ c o, lookup S c = some o → (invLookup S o).isSome = true

theorem unescS_bs (bs : α) (S : List (α × α)) (y : α) (t : List α) :
    unescS bs S (bs :: y :: t) = match lookup S y with
      | some o => o :: unescS bs S t
      | none => bs :: unescS bs S (y :: t) := by
  simp [unescS]

theorem unescS_other {bs x : α} {S : List (α × α)} {l : List α} (hx : x ≠ bs) :
    unescS bs S (x :: l) = x :: unescS bs S l := by
  cases l with
  | nil => simp [unescS]
  | cons y t => simp [unescS, hx]

theorem escape_cons_some {bs : α} {S : List (α × α)} {o c : α} (h : invLookup S o = some c) (t : List α) :
    escape bs S (o :: t) = bs :: c :: escape bs S t := by
  simp [escape, escChar, h]

theorem escape_cons_none {bs : α} {S : List (α × α)} {o : α} (h : invLookup S o = none) (t : List α) :
    escape bs S (o :: t) = o :: escape bs S t := by
  simp [escape, escChar, h]

theorem noBad_cons {bs : α} {S : List (α × α)} {x : α} {l : List α} :
    NoBad bs S (x :: l) ↔ (∀ y ∈ l.head?, ¬ (x = bs ∧ (lookup S y).isSome ∧ (invLookup S y).isNone)) ∧ NoBad bs S l := by
  cases l with
  | nil => exact ⟨fun _ => ⟨nofun, trivial⟩, fun _ => trivial⟩
  | cons y t =>
    constructor
    · exact fun h => ⟨fun z hz => by cases hz; exact h.1, h.2⟩
    · exact fun h => ⟨h.1 y rfl, h.2⟩

theorem unescS_bs_escape {bs : α} {S : List (α × α)} (h : WF bs S) (t : List α) (hn : NoBad bs S (bs :: t)) :
    unescS bs S (bs :: escape bs S t) = bs :: unescS bs S (escape bs S t) := by
  cases t with
  | nil => rfl
  | cons y t' =>
    cases hy : invLookup S y with
    | some c' => rw [escape_cons_some hy, unescS_bs, h.bs_not_pat]
    | none =>
      -- `y` stays as it is, and it is no pattern letter: `\y` would be a bad pair
      have hny : lookup S y = none := by simpa [hy] using hn.1
      rw [escape_cons_none hy, unescS_bs, hny]

theorem unesc_escape (bs : α) (S : List (α × α)) (h : WF bs S) :
    ∀ u : List α, NoBad bs S u → unescS bs S (escape bs S u) = u := by
  intro u
  induction u with
  | nil => intro _; rfl
  | cons x t ih =>
    intro hn
    have iht := ih (noBad_cons.mp hn).2
    cases hx : invLookup S x with
    | some c => rw [escape_cons_some hx, unescS_bs, h.inv_lookup x c hx, iht]
    | none =>
      rw [escape_cons_none hx]
      by_cases hxb : x = bs
      · subst hxb
        rw [unescS_bs_escape h t hn, iht]
      · rw [unescS_other hxb, iht]

theorem head?_unescS {bs : α} {S : List (α × α)} {l : List α} :
    ∀ z ∈ (unescS bs S l).head?, z ∈ l.head? ∨ ∃ c, lookup S c = some z := by
  fun_cases unescS bs S l with
  | case3 y t o hl =>
    rintro z ⟨⟩
    exact .inr ⟨y, hl⟩
  | _ => exact fun z hz => .inl hz

theorem noBad_unesc (bs : α) (S : List (α × α)) (h : WF bs S) : ∀ b : List α, NoBad bs S (unescS bs S b) := by
  intro b
  fun_induction unescS bs S b with
  | case1 => trivial
  | case2 x => trivial
  | case3 y t o hl ih =>
    -- `\y` is replaced by an output `o`, and no output is the backslash
    refine noBad_cons.mpr ⟨fun z _ hb => ?_, ih⟩
    have := h.lookup_inv y o hl
    rw [hb.1, h.bs_not_out] at this
    cases this
  | case4 y t hl ih =>
    -- the backslash stays; after it comes `y`, which is no pattern letter, or an output, which `escape` does not leave alone
    refine noBad_cons.mpr ⟨fun z hz hb => ?_, ih⟩
    rcases head?_unescS z hz with hy | ⟨c, hc⟩
    · cases hy
      have := hb.2.1
      rw [hl] at this
      cases this
    · have := h.lookup_inv c z hc
      rw [Option.isNone_iff_eq_none.mp hb.2.2] at this
      cases this
  | case5 x y t hx ih => exact noBad_cons.mpr ⟨fun z _ hb => hx hb.1, ih⟩

/-- C09, string literals: for every token body `b`, printing the parsed value and parsing it again gives the value; what
    `unescape` returns has no bad pair, whatever it was given -/
theorem literal_roundtrip (bs : α) (S : List (α × α)) (h : WF bs S) (b : List α) :
    unescS bs S (escape bs S (unescS bs S b)) = unescS bs S b :=
  unesc_escape bs S h _ (noBad_unesc bs S h b)

theorem pass_other {bs c o x : α} {l : List α} (hx : x ≠ bs) : pass bs c o (x :: l) = x :: pass bs c o l := by
  cases l with
  | nil => simp [pass]
  | cons y t => simp [pass, hx]

theorem pass_bs_eq (bs c o : α) (r : List α) : pass bs c o (bs :: c :: r) = o :: pass bs c o r := by
  simp [pass]

theorem pass_bs_ne {bs c o : α} {l : List α} (h : ∀ z ∈ l.head?, z ≠ c) : pass bs c o (bs :: l) = bs :: pass bs c o l := by
  cases l with
  | nil => rfl
  | cons z r => simp [pass, h z rfl]

theorem lookup_cons (S : List (α × α)) (c o y : α) : lookup ((c, o) :: S) y = if c = y then some o else lookup S y := rfl

/-- one more whole-string pass, for a letter that the rules so far neither read nor write, adds its rule to the simultaneous pass -/
theorem pass_unescS (bs c o : α) (S : List (α × α)) (hc : c ≠ bs)
    (hout_bs : ∀ c' o', lookup S c' = some o' → o' ≠ bs)
    (hout_c : ∀ c' o', lookup S c' = some o' → o' ≠ c)
    (hnew : lookup S c = none) (l : List α) : pass bs c o (unescS bs S l) = unescS bs ((c, o) :: S) l := by
  fun_induction unescS bs ((c, o) :: S) l with
  | case1 => rfl
  | case2 x => rfl
  | case3 y t o' hl ih =>
    rw [unescS_bs, ← ih]
    rw [lookup_cons] at hl
    split at hl
    · -- the new rule fires: the earlier passes left `\c` as it was
      subst y
      cases hl
      rw [hnew, unescS_other hc, pass_bs_eq]
    · rw [hl, pass_other (hout_bs y o' hl)]
  | case4 y t hl ih =>
    rw [unescS_bs, ← ih]
    rw [lookup_cons] at hl
    split at hl
    · cases hl
    · rename_i hcy
      rw [hl]
      -- the backslash stays: what the earlier passes left after it is `y` or one of their outputs, not `c`
      refine pass_bs_ne fun z hz => ?_
      rcases head?_unescS z hz with hy | ⟨c', hc'⟩
      · cases hy
        exact fun e => hcy e.symm
      · exact hout_c c' z hc'
  | case5 x y t hx ih => rw [unescS_other hx, pass_other hx, ih]

theorem unescS_nil (bs : α) (l : List α) : unescS bs ([] : List (α × α)) l = l := by
  fun_induction unescS bs ([] : List (α × α)) l with
  | case1 => rfl
  | case2 x => rfl
  | case3 y t o hl _ => cases hl
  | case4 y t hl ih => rw [ih]
  | case5 x y t hx ih => rw [ih]

/-- rules that may be applied one whole-string pass after the other: what `pass_unescS` asks, of every rule -/
def Seq (bs : α) : List (α × α) → Prop
  | [] => True
  | (c, o) :: S => c ≠ bs ∧ o ≠ bs ∧ lookup S c = none ∧ (∀ c' o', lookup S c' = some o' → o' ≠ bs) ∧
      (∀ c' o', lookup S c' = some o' → o' ≠ c) ∧ Seq bs S

theorem seq_eq_sim (bs : α) : ∀ (S : List (α × α)), Seq bs S → ∀ l : List α,
    S.foldr (fun r acc => pass bs r.1 r.2 acc) l = unescS bs S l := by
  intro S
  induction S with
  | nil => intro _ l; exact (unescS_nil bs l).symm
  | cons r S ih =>
    intro hs l
    obtain ⟨c, o⟩ := r
    obtain ⟨hc, _, hnew, hob, hoc, hrest⟩ := hs
    rw [List.foldr_cons, ih hrest l]
    exact pass_unescS bs c o S hc hob hoc hnew l

theorem unescS_congr {bs : α} {S T : List (α × α)} (h : ∀ y, lookup S y = lookup T y) (l : List α) :
    unescS bs S l = unescS bs T l := by
  fun_induction unescS bs S l with
  | case1 => rfl
  | case2 x => rfl
  | case3 y t o hl ih => rw [unescS_bs, ← h y, hl, ih]
  | case4 y t hl ih => rw [unescS_bs, ← h y, hl, ih]
  | case5 x y t hx ih => rw [unescS_other hx, ih]

theorem lookup_mem {S : List (α × α)} {c o : α} (h : lookup S c = some o) : (c, o) ∈ S := by
  fun_induction lookup S c with
  | case1 => cases h
  | case2 o' t =>
    cases h
    exact List.mem_cons_self
  | case3 c' o' t hc ih => exact List.mem_cons_of_mem _ (ih h)

theorem invLookup_eq (S : List (α × α)) (o : α) : invLookup S o = lookup (S.map Prod.swap) o := by
  induction S with
  | nil => rfl
  | cons r S ih => simp [invLookup, lookup, ih]

theorem invLookup_mem {S : List (α × α)} {o c : α} (h : invLookup S o = some c) : (c, o) ∈ S := by
  obtain ⟨⟨c', o'⟩, hm, he⟩ := List.mem_map.mp (lookup_mem (invLookup_eq S o ▸ h))
  cases he
  exact hm

def Indep (r1 r2 : α × α) : Prop := r1.1 ≠ r2.1 ∧ r1.2 ≠ r2.1 ∧ r2.2 ≠ r1.1

instance (r1 r2 : α × α) : Decidable (Indep r1 r2) := by unfold Indep; infer_instance

theorem seq_of_pairwise {bs : α} {S : List (α × α)} (hb : ∀ r ∈ S, r.1 ≠ bs ∧ r.2 ≠ bs) (hp : S.Pairwise Indep) : Seq bs S := by
  induction hp with
  | nil => trivial
  | @cons r S hr _ ih =>
    obtain ⟨c, o⟩ := r
    refine ⟨(hb (c, o) List.mem_cons_self).1, (hb (c, o) List.mem_cons_self).2, ?_, ?_, ?_, ?_⟩
    · cases hl : lookup S c with
      | none => rfl
      | some o' => exact absurd rfl (hr _ (lookup_mem hl)).1
    · intro c' o' hl; exact (hb (c', o') (List.mem_cons_of_mem _ (lookup_mem hl))).2
    · intro c' o' hl; exact (hr (c', o') (lookup_mem hl)).2.2
    · exact ih (fun r hm => hb r (List.mem_cons_of_mem _ hm))

omit [DecidableEq α] in
theorem indep_symm {r1 r2 : α × α} (h : Indep r1 r2) : Indep r2 r1 := ⟨fun e => h.1 e.symm, h.2.2, h.2.1⟩

theorem mem_lookup {S : List (α × α)} {c o : α} (hS : S.Pairwise Indep) (h : (c, o) ∈ S) : lookup S c = some o := by
  induction hS with
  | nil => cases h
  | cons hr _ ih =>
    rw [lookup]
    rcases List.mem_cons.mp h with rfl | h
    · exact if_pos rfl
    · rw [if_neg (hr _ h).1, ih h]

theorem lookup_perm {S T : List (α × α)} (hp : S.Perm T) (hS : S.Pairwise Indep) (y : α) : lookup S y = lookup T y :=
  Option.ext fun _ =>
    ⟨fun h => mem_lookup (hp.pairwise hS indep_symm) (hp.mem_iff.mp (lookup_mem h)),
     fun h => mem_lookup hS (hp.mem_iff.mpr (lookup_mem h))⟩

/-- the whole-string passes of the Go code, in whatever order its map yields the rules, are the simultaneous pass -/
theorem foldr_pass_eq_sim (bs : α) (S T : List (α × α)) (hp : S.Perm T)
    (hb : ∀ r ∈ S, r.1 ≠ bs ∧ r.2 ≠ bs) (hS : S.Pairwise Indep) (l : List α) :
    T.foldr (fun r acc => pass bs r.1 r.2 acc) l = unescS bs S l := by
  have hT : T.Pairwise Indep := hp.pairwise hS indep_symm
  have hbT : ∀ r ∈ T, r.1 ≠ bs ∧ r.2 ≠ bs := fun r hr => hb r (hp.mem_iff.mpr hr)
  rw [seq_eq_sim bs T (seq_of_pairwise hbT hT) l]
  exact (unescS_congr (lookup_perm hp hS) l).symm

/-- C09 / C11: whatever order the map iteration picks, `unescape` computes the same function -/
theorem unescape_order_independent (bs : α) (S T : List (α × α)) (hp : S.Perm T)
    (hb : ∀ r ∈ S, r.1 ≠ bs ∧ r.2 ≠ bs) (hS : S.Pairwise Indep) (l : List α) :
    S.foldr (fun r acc => pass bs r.1 r.2 acc) l = T.foldr (fun r acc => pass bs r.1 r.2 acc) l :=
  (foldr_pass_eq_sim bs S S (List.Perm.refl S) hb hS l).trans (foldr_pass_eq_sim bs S T hp hb hS l).symm

/-- for a concrete table the hypotheses are a computation -/
theorem wf_of_table {bs : α} {S : List (α × α)} (h : ∀ r ∈ S, lookup S r.1 = some r.2 ∧ invLookup S r.2 = some r.1)
    (h1 : invLookup S bs = none) (h2 : lookup S bs = none) : WF bs S where
  inv_lookup o c hi := (h (c, o) (invLookup_mem hi)).1
  bs_not_out := h1
  bs_not_pat := h2
  lookup_inv c o hl := by rw [(h (c, o) (lookup_mem hl)).2]; rfl

theorem escChar_nil (bs o : α) : escChar bs [] o = [o] := rfl

theorem escChar_cons (bs p o' : α) (S : List (α × α)) (o : α) :
    escChar bs ((p, o') :: S) o = if o = o' then [bs, p] else escChar bs S o := by
  unfold escChar
  rw [invLookup]
  by_cases h : o' = o
  · rw [if_pos h, if_pos h.symm]
  · rw [if_neg h, if_neg (fun e => h e.symm)]

/-! the rules of opFunction.go, over `Nat`: the copy that `Mp.FactChecks` compares the regenerated maps with. The table of the
    model is `Mp.unescapeRules` (Mp/Parse.lean, bytes), which `Mp.EscBridge` calls `byteRules`. -/
def goRules : List (Nat × Nat) := [(34, 34), (97, 7), (98, 8), (102, 12), (110, 10), (114, 13), (116, 9), (118, 11)]

theorem goRules_wf : WF 92 goRules := wf_of_table (by decide) (by decide) (by decide)

theorem go_literal_roundtrip (b : List Nat) :
    unescS 92 goRules (escape 92 goRules (unescS 92 goRules b)) = unescS 92 goRules b :=
  literal_roundtrip 92 goRules goRules_wf b

theorem go_order_independent (T : List (Nat × Nat)) (hp : goRules.Perm T) (l : List Nat) :
    goRules.foldr (fun r acc => pass 92 r.1 r.2 acc) l = T.foldr (fun r acc => pass 92 r.1 r.2 acc) l :=
  unescape_order_independent 92 goRules T hp (by decide) (by decide) l

#print axioms literal_roundtrip
#print axioms unescape_order_independent
#print axioms go_literal_roundtrip
#print axioms go_order_independent
end Esc
