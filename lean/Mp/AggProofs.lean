import Mp.DivProofs
/-! C04 — aggregates over lists of ANY length: Sum is exact, Minimum / Maximum return the least / greatest value,
    Average is within half a unit of the 16th decimal place of the exact mean. -/
namespace Mp
namespace Dec

theorem sumL_toRat : ∀ (xs : List Dec) (acc : Dec), (sumL acc xs).toRat = acc.toRat + (xs.map toRat).sum := by
  intro xs
  induction xs with
  | nil => intro acc; simp [sumL]
  | cons x xs ih => intro acc; rw [sumL, ih, add_toRat]; simp [add_assoc]

/-- `minL` and `maxL` are two recursive definitions of one shape: `f` stands for either through its equations `h0`, `h1`,
    `maxL` in the dual order -/
theorem fold_least_spec {α β : Type} [LinearOrder β] (key : α → β) (test : α → α → Bool)
    (htest : ∀ x a, test x a = true ↔ key x < key a)
    {f : α → List α → α} (h0 : ∀ a, f a [] = a) (h1 : ∀ a x xs, f a (x :: xs) = f (if test x a then x else a) xs) :
    ∀ (xs : List α) (acc : α), (∀ y ∈ acc :: xs, key (f acc xs) ≤ key y) ∧ f acc xs ∈ acc :: xs := by
  intro xs
  induction xs with
  | nil => intro acc; simp [h0]
  | cons x xs ih =>
    intro acc
    obtain ⟨hle, hmem⟩ := ih (if test x acc then x else acc)
    rw [h1]
    simp only [List.forall_mem_cons] at hle ⊢
    simp only [List.mem_cons] at hmem ⊢
    by_cases h : test x acc = true
    · rw [if_pos h] at hle hmem ⊢
      exact ⟨⟨hle.1.trans ((htest x acc).mp h).le, hle⟩, .inr hmem⟩
    · rw [if_neg h] at hle hmem ⊢
      exact ⟨⟨hle.1, hle.1.trans (not_lt.mp (mt (htest x acc).mpr h)), hle.2⟩, hmem.imp_right .inr⟩

theorem minL_spec : ∀ (xs : List Dec) (acc : Dec),
    (∀ y ∈ acc :: xs, (minL acc xs).toRat ≤ y.toRat) ∧ (minL acc xs) ∈ acc :: xs :=
  fold_least_spec toRat (fun x a => cmp x a == .lt) cmp_beq_lt (fun _ => rfl) (fun _ _ _ => rfl)

theorem maxL_spec : ∀ (xs : List Dec) (acc : Dec),
    (∀ y ∈ acc :: xs, y.toRat ≤ (maxL acc xs).toRat) ∧ (maxL acc xs) ∈ acc :: xs :=
  fold_least_spec (fun d => OrderDual.toDual d.toRat) (fun x a => cmp x a == .gt) cmp_beq_gt (fun _ => rfl) (fun _ _ _ => rfl)

theorem ofNat_toRat (n : Nat) : (ofNat n).toRat = n := by simp [ofNat, toRat]

theorem avgL_bound (first : Dec) (rest : List Dec) :
    |(avgL first rest).toRat - (first.toRat + (rest.map toRat).sum) / ((rest.length + 1 : Nat) : ℚ)| ≤ 1 / 2 * (10 : ℚ) ^ (-16 : Int) := by
  have := div_bound (sumL first rest) (ofNat (rest.length + 1)) (by simp [ofNat]; omega)
  rwa [sumL_toRat, ofNat_toRat] at this

#print axioms sumL_toRat
#print axioms minL_spec
#print axioms maxL_spec
#print axioms avgL_bound
end Dec
end Mp
