import Mp.AggProofs
import Mp.PureFuncEqs
/-! C04: the aggregate functions of the evaluator model applied to a list of decimals are the folds proved in AggProofs. -/
namespace Mp

theorem foldl_collect_decs (g : Option (List Dec) → GoVal → Option (List Dec)) (hg : ∀ l d, g (some l) (GoVal.dec d) = some (l ++ [d]))
    (ds init : List Dec) : (ds.map GoVal.dec).foldl g (some init) = some (init ++ ds) := by
  induction ds generalizing init with
  | nil => simp
  | cons d ds ih => simp [hg, ih]

/-- a single element is returned as it is, `f` not called: for Average that matters (`avgL d []` is `d` written with sixteen
    places, another decimal); for the three folds `f d [] = d`, which their callers use -/
theorem decimalSlice_decs (f : Dec → List Dec → Dec) (d : Dec) (rest : List Dec) :
    decimalSlice [] (.slice true false ((d :: rest).map GoVal.dec)) f = okDec (match rest with | [] => d | _ => f d rest) := by
  unfold decimalSlice
  simp only [prmNumbers, prmStrings, List.filterMap_nil, List.append_nil, List.nil_append]
  rw [foldl_collect_decs _ (fun l d => rfl) (d :: rest) []]
  cases rest <;> simp

theorem sum_spec (d : Dec) (rest : List Dec) :
    ∃ r, pureFunc "Sum" [] (.slice true false ((d :: rest).map GoVal.dec)) = some (okDec r) ∧
      r.toRat = ((d :: rest).map Dec.toRat).sum := by
  refine ⟨Dec.sumL d rest, ?_, by simp [Dec.sumL_toRat]⟩
  rw [pureFunc_Sum, decimalSlice_decs]
  cases rest <;> rfl

theorem minimum_spec (d : Dec) (rest : List Dec) :
    ∃ r, pureFunc "Minimum" [] (.slice true false ((d :: rest).map GoVal.dec)) = some (okDec r) ∧
      r ∈ d :: rest ∧ ∀ y ∈ d :: rest, r.toRat ≤ y.toRat := by
  refine ⟨Dec.minL d rest, ?_, (Dec.minL_spec rest d).2, (Dec.minL_spec rest d).1⟩
  rw [pureFunc_Minimum, decimalSlice_decs]
  cases rest <;> rfl

theorem maximum_spec (d : Dec) (rest : List Dec) :
    ∃ r, pureFunc "Maximum" [] (.slice true false ((d :: rest).map GoVal.dec)) = some (okDec r) ∧
      r ∈ d :: rest ∧ ∀ y ∈ d :: rest, y.toRat ≤ r.toRat := by
  refine ⟨Dec.maxL d rest, ?_, (Dec.maxL_spec rest d).2, (Dec.maxL_spec rest d).1⟩
  rw [pureFunc_Maximum, decimalSlice_decs]
  cases rest <;> rfl

theorem average_spec (d x : Dec) (rest : List Dec) :
    ∃ r, pureFunc "Average" [] (.slice true false ((d :: x :: rest).map GoVal.dec)) = some (okDec r) ∧
      |r.toRat - ((d :: x :: rest).map Dec.toRat).sum / (((d :: x :: rest).length : Nat) : ℚ)| ≤ 1 / 2 * (10 : ℚ) ^ (-16 : Int) := by
  refine ⟨Dec.avgL d (x :: rest), ?_, Dec.avgL_bound d (x :: rest)⟩
  rw [pureFunc_Average, decimalSlice_decs]

theorem add_func (a b : Dec) : pureFunc "Add" [.num b] (.dec a) = some (okDec (a.add b)) := pureFunc_Add _ _
theorem subtract_func (a b : Dec) : pureFunc "Subtract" [.num b] (.dec a) = some (okDec (a.sub b)) := pureFunc_Subtract _ _
theorem multiply_func (a b : Dec) (h : inI32 (a.exp + b.exp) = true) : pureFunc "Multiply" [.num b] (.dec a) = some (okDec (a.mul b)) := by
  simp [h]
/-- a product whose exponent does not fit the 32 bits of the decimal type is an error (not a panic, not a wrong number) -/
theorem multiply_out_of_range (a b : Dec) (h : inI32 (a.exp + b.exp) = false) : pureFunc "Multiply" [.num b] (.dec a) = some .err := by
  simp [h]
example : inI32 ((⟨15, -1⟩ : Dec).exp + (⟨2, 3⟩ : Dec).exp) = true := by decide
theorem divide_func (a b : Dec) (h : b.coef ≠ 0) : pureFunc "Divide" [.num b] (.dec a) = some (okDec (a.div b)) := by
  simp [Dec.isZero, h]
theorem modulo_func (a b : Dec) (h : b.coef ≠ 0) : pureFunc "Modulo" [.num b] (.dec a) = some (okDec (a.mod b)) := by
  simp [Dec.isZero, h]
theorem divide_by_zero (a b : Dec) (h : b.coef = 0) : pureFunc "Divide" [.num b] (.dec a) = some .err := by
  simp [Dec.isZero, h]
theorem modulo_by_zero (a b : Dec) (h : b.coef = 0) : pureFunc "Modulo" [.num b] (.dec a) = some .err := by
  simp [Dec.isZero, h]

/-- no binary floating-point error: 0.1 + 0.2 is exactly 0.3 -/
example : ((⟨1, -1⟩ : Dec).add ⟨2, -1⟩).toRat = 3 / 10 := by
  rw [Dec.add_toRat]; norm_num [Dec.toRat]

#print axioms sum_spec
#print axioms minimum_spec
#print axioms maximum_spec
#print axioms average_spec
#print axioms add_func
#print axioms divide_func
#print axioms modulo_func
#print axioms divide_by_zero
end Mp
