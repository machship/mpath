import Mp.LexProofs
/-! C09, lexer side of the print/parse round trip (`Mp/RoundTrip.lean`): what `scan` returns on the tokens of a printed key path. -/
namespace Mp

/-- "make state": the scanner state whose unread input, look-ahead included, is the third argument -/
def mkS (tok : Bytes) (errs : Nat) : Bytes → Sc
  | [] => { ch := -1, chRaw := [], rest := [], errs := errs, tok := tok }
  | b :: t => { ch := (b.toNat : Int), chRaw := [b], rest := t, errs := errs, tok := tok }

/-- ASCII and not NUL, which text/scanner counts as an error -/
def Asc (bs : Bytes) : Prop := ∀ b ∈ bs, b.toNat < 128 ∧ b.toNat ≠ 0

@[simp] theorem asc_nil : Asc [] := fun _ h => nomatch h
@[simp] theorem asc_cons {c : UInt8} {t : Bytes} : Asc (c :: t) ↔ (c.toNat < 128 ∧ c.toNat ≠ 0) ∧ Asc t := List.forall_mem_cons
@[simp] theorem asc_append {a b : Bytes} : Asc (a ++ b) ↔ Asc a ∧ Asc b := List.forall_mem_append

theorem asc_append_right {a b : Bytes} (h : Asc (a ++ b)) : Asc b := (asc_append.mp h).2

@[simp] theorem mkS_ch (tok : Bytes) (e : Nat) (b : UInt8) (t : Bytes) : (mkS tok e (b :: t)).ch = (b.toNat : Int) := rfl
@[simp] theorem mkS_tok (tok : Bytes) (e : Nat) (bs : Bytes) : (mkS tok e bs).tok = tok := by cases bs <;> rfl
@[simp] theorem mkS_rest (tok : Bytes) (e : Nat) (bs : Bytes) : (mkS tok e bs).rest = bs.tail := by cases bs <;> rfl

theorem fuel_succ {n F : Nat} (h : n < F) : ∃ f, F = f + 1 ∧ n ≤ f := ⟨F - 1, by omega⟩

theorem next_ascii (s : Sc) (c : UInt8) (t : Bytes) (hr : s.rest = c :: t) (hc : c.toNat < 128 ∧ c.toNat ≠ 0) :
    s.next = { ch := (c.toNat : Int), chRaw := [c], rest := t, errs := s.errs, tok := s.tok ++ s.chRaw } := by
  unfold Sc.next
  rw [hr]
  simp [decodeRune_ascii c t hc.1, hc.2]

theorem next_eof (s : Sc) (hr : s.rest = []) : s.next = { s with ch := -1, chRaw := [], tok := s.tok ++ s.chRaw } := by
  unfold Sc.next
  rw [hr]

theorem mkS_next (tok : Bytes) (e : Nat) (b : UInt8) (t : Bytes) (ht : Asc t) :
    (mkS tok e (b :: t)).next = mkS (tok ++ [b]) e t := by
  cases t with
  | nil => rw [next_eof _ rfl]; simp [mkS]
  | cons c t' =>
    rw [next_ascii _ c t' rfl (ht c List.mem_cons_self)]
    simp [mkS]

theorem peekInit_init (bs : Bytes) (h : Asc bs) : (Sc.init bs).peekInit = mkS [] 0 bs := by
  cases bs with
  | nil => rfl
  | cons b t =>
    have hb := h b List.mem_cons_self
    have hn : ({ (Sc.init (b :: t)) with chRaw := [] } : Sc).next = mkS [] 0 (b :: t) := next_ascii _ b t rfl hb
    have hbom : (mkS [] 0 (b :: t)).ch ≠ 0xFEFF := by simp only [mkS_ch]; omega
    unfold Sc.peekInit
    rw [if_pos (by rfl)]
    simp only [hn, beq_iff_eq, hbom, if_false]

theorem peekInit_read (s : Sc) (h : s.ch ≠ -2) : s.peekInit = s := by
  simp [Sc.peekInit, h]

theorem peekInit_mkS (tok : Bytes) (e : Nat) (bs : Bytes) : (mkS tok e bs).peekInit = mkS tok e bs := by
  apply peekInit_read
  cases bs <;> simp [mkS] <;> omega

/-- identifier byte: one the scanner takes into an identifier -/
structure IdB (T : Tables) (b : UInt8) : Prop where
  asc : b.toNat < 128
  nz : b.toNat ≠ 0
  ident : isIdentRune T (b.toNat : Int) = true
  notWs : isWs (b.toNat : Int) = false

/-- the four fields as one decidable statement, so that one evaluation settles them for a concrete table and byte -/
theorem IdB.of_and {T : Tables} {b : UInt8}
    (h : b.toNat < 128 ∧ b.toNat ≠ 0 ∧ isIdentRune T (b.toNat : Int) = true ∧ isWs (b.toNat : Int) = false) : IdB T b :=
  ⟨h.1, h.2.1, h.2.2.1, h.2.2.2⟩

/-- 63 is the mark `?` -/
structure KeyByte (T : Tables) (b : UInt8) : Prop extends IdB T b where
  notMark : b.toNat ≠ 63

def Key (T : Tables) (k : Bytes) : Prop := k ≠ [] ∧ ∀ b ∈ k, KeyByte T b

def StopAt (T : Tables) : Bytes → Prop
  | [] => True
  | c :: _ => isIdentRune T (c.toNat : Int) = false ∧ isWs (c.toNat : Int) = false

theorem asc_of_idb {T : Tables} {bs : Bytes} (h : ∀ b ∈ bs, IdB T b) : Asc bs := fun b hb => ⟨(h b hb).asc, (h b hb).nz⟩

theorem skipWs_noop (s : Sc) (n : Nat) (h : isWs s.ch = false) : skipWs (n + 1) s = s := by
  unfold skipWs
  simp [h]

theorem sxPrep_of_peek {s : Sc} {tok : Bytes} {e : Nat} {bs : Bytes} (hp : s.peekInit = mkS tok e bs)
    (hw : isWs (mkS tok e bs).ch = false) : sxPrep s = mkS [] e bs := by
  unfold sxPrep
  simp only [hp]
  rw [skipWs_noop _ _ hw]
  cases bs <;> rfl

theorem sxPrep_mkS (tok : Bytes) (e : Nat) (bs : Bytes) (h : isWs (mkS tok e bs).ch = false) :
    sxPrep (mkS tok e bs) = mkS [] e bs :=
  sxPrep_of_peek (peekInit_mkS tok e bs) h

theorem sxPrep_init (bs : Bytes) (ha : Asc bs) (h : isWs (mkS [] 0 bs).ch = false) : sxPrep (Sc.init bs) = mkS [] 0 bs :=
  sxPrep_of_peek (peekInit_init bs ha) h

/-- mpath's `Scan` returns what text/scanner recognises when that needs no second scan after a comment (`∀ again`) and is
    not a rune the wrapper skips as unprintable (`hk`) -/
theorem scan_of_body (T : Tables) (s : Sc) {k : TokKind} {s' : Sc} (h : ∀ again, sxBody T again (sxPrep s) = (k, s'))
    (hk : ∀ r, k = .rune r → T.isPrint r = true) : scan T s = (k, s') := by
  unfold scan mScan sxScan
  rw [h]
  simp only []
  split
  · rw [if_pos (hk _ rfl)]
  · rfl

theorem scanIdent_run (T : Tables) (run tok : Bytes) (e : Nat) (rest : Bytes) (fuel : Nat)
    (hk : ∀ b ∈ run, IdB T b) (hs : StopAt T rest) (ha : Asc (run ++ rest)) (hf : run.length < fuel) :
    scanIdent T fuel (mkS tok e (run ++ rest)) = mkS (tok ++ run) e rest := by
  induction run generalizing tok fuel with
  | nil =>
    obtain ⟨f, rfl, -⟩ := fuel_succ hf
    unfold scanIdent
    cases rest with
    | nil => simp [mkS, isIdentRune]
    | cons c t => simp [show isIdentRune T (c.toNat : Int) = false from hs.1]
  | cons b run ih =>
    obtain ⟨f, rfl, hf'⟩ := fuel_succ hf
    obtain ⟨hb, hk⟩ := List.forall_mem_cons.mp hk
    have ha' : Asc (run ++ rest) := (asc_cons.mp ha).2
    unfold scanIdent
    simp only [List.cons_append, mkS_ch, hb.ident, if_true]
    rw [mkS_next tok e b _ ha', ih _ f hk ha' hf']
    simp

/-- 36 is `$`, 46 is `.` -/
structure PunctOK (T : Tables) : Prop where
  dollar : T.isPrint 36 = true
  dot : T.isPrint 46 = true

theorem not_ident_of_mem (T : Tables) {n : Nat} (h : n ∈ invalidRunes) : isIdentRune T n = false := by
  simp [isIdentRune, h]

/-- `$ ( ) , . @`: the reserved runes of a printed path that are a token by themselves -/
def punct : List UInt8 := [36, 40, 41, 44, 46, 64]

/-- `[-1, 34, 39, 47, 96]`: see `sxBody_rune` -/
theorem punct_spec : ∀ c ∈ punct, c.toNat ∈ invalidRunes ∧ isWs (c.toNat : Int) = false ∧
    (c.toNat : Int) ∉ [-1, 34, 39, 47, 96] := by
  -- `+kernel`: `invalidRunes` is a string literal, which the elaborator's own evaluator is slow to decode
  decide +kernel

theorem stopAt_punct (T : Tables) {c : UInt8} (t : Bytes) (hc : c ∈ punct) : StopAt T (c :: t) :=
  ⟨not_ident_of_mem T (punct_spec c hc).1, (punct_spec c hc).2.1⟩

theorem stopAt_dot (T : Tables) (t : Bytes) : StopAt T (46 :: t) := stopAt_punct T t (by decide)

theorem scan_ident (T : Tables) (s : Sc) (e : Nat) (b : UInt8) (k rest : Bytes)
    (hprep : sxPrep s = mkS [] e (b :: k ++ rest)) (hk : ∀ x ∈ b :: k, IdB T x) (hs : StopAt T rest) (ha : Asc (b :: k ++ rest)) :
    scan T s = (.ident, mkS (b :: k) e rest) := by
  obtain ⟨hb, hk⟩ := List.forall_mem_cons.mp hk
  have ha' : Asc (k ++ rest) := (asc_cons.mp ha).2
  refine scan_of_body T s (fun again => ?_) nofun
  rw [hprep]
  unfold sxBody
  simp only [List.cons_append, mkS_ch, hb.ident, if_true]
  rw [mkS_next [] e b _ ha', scanIdent_run T k _ e rest _ hk hs ha' (by simp [mkS]; omega)]
  simp

theorem scan_ident_mkS (T : Tables) {tok : Bytes} {e : Nat} {w rest : Bytes} (hne : w ≠ []) (hw : ∀ x ∈ w, IdB T x)
    (hs : StopAt T rest) (har : Asc rest) : scan T (mkS tok e (w ++ rest)) = (.ident, mkS w e rest) := by
  cases w with
  | nil => exact absurd rfl hne
  | cons b k =>
    exact scan_ident T _ e b k rest (sxPrep_mkS tok e _ (hw b List.mem_cons_self).notWs) hw hs
      (asc_append.mpr ⟨asc_of_idb hw, har⟩)

/-- -1, 34, 39, 47, 96: the end of the input and what begins a string, a character, a comment, a raw string; any other
    look-ahead that is no identifier rune is a token by itself -/
theorem sxBody_rune (T : Tables) (again : Sc → TokKind × Sc) (s : Sc) (hid : isIdentRune T s.ch = false)
    (hsp : s.ch ∉ [-1, 34, 39, 47, 96]) : sxBody T again s = (.rune s.ch.toNat, s.next) := by
  simp only [List.mem_cons, List.not_mem_nil, or_false, not_or] at hsp
  unfold sxBody
  simp only [hid, hsp, beq_iff_eq, Bool.false_eq_true, if_false]
  split
  · rfl
  · split
    · rename_i h; rw [h]; rfl
    · rfl

theorem scan_rune (T : Tables) (c : UInt8) (hc : c ∈ punct) (hp : T.isPrint c.toNat = true) {s : Sc} {e : Nat} {t : Bytes}
    (hprep : sxPrep s = mkS [] e (c :: t)) (ha : Asc t) : scan T s = (.rune c.toNat, mkS [c] e t) := by
  obtain ⟨hr, _, hsp⟩ := punct_spec c hc
  refine scan_of_body T s (fun again => ?_) (fun r hr => by cases hr; exact hp)
  rw [hprep, sxBody_rune T again (mkS [] e (c :: t)) (not_ident_of_mem T hr) hsp, mkS_next [] e c t ha]
  rfl

theorem scan_dollar (T : Tables) (hT : PunctOK T) (s : Sc) (e : Nat) (t : Bytes) (hprep : sxPrep s = mkS [] e (36 :: t)) (ha : Asc t) :
    scan T s = (.rune 36, mkS [36] e t) :=
  scan_rune T 36 (by decide) hT.dollar hprep ha

theorem scan_dot (T : Tables) (hT : PunctOK T) (s : Sc) (e : Nat) (t : Bytes) (hprep : sxPrep s = mkS [] e (46 :: t)) (ha : Asc t) :
    scan T s = (.rune 46, mkS [46] e t) :=
  scan_rune T 46 (by decide) hT.dot hprep ha

theorem scan_eof (T : Tables) (s : Sc) (e : Nat) (hprep : sxPrep s = mkS [] e []) : scan T s = (.eof, mkS [] e []) := by
  refine scan_of_body T s (fun again => ?_) nofun
  rw [hprep]
  unfold sxBody
  simp [mkS, isIdentRune]

/-- 40 is `(`, 41 is `)` -/
structure ParenOK (T : Tables) : Prop where
  lp : T.isPrint 40 = true
  rp : T.isPrint 41 = true

theorem not_ident_40 (T : Tables) : isIdentRune T 40 = false := not_ident_of_mem T (punct_spec 40 (by decide)).1

theorem not_ident_41 (T : Tables) : isIdentRune T 41 = false := not_ident_of_mem T (punct_spec 41 (by decide)).1

theorem scan_lparen (T : Tables) (hp : ParenOK T) (s : Sc) (e : Nat) (t : Bytes) (hprep : sxPrep s = mkS [] e (40 :: t)) (ha : Asc t) :
    scan T s = (.rune 40, mkS [40] e t) :=
  scan_rune T 40 (by decide) hp.lp hprep ha

theorem scan_rparen (T : Tables) (hp : ParenOK T) (s : Sc) (e : Nat) (t : Bytes) (hprep : sxPrep s = mkS [] e (41 :: t)) (ha : Asc t) :
    scan T s = (.rune 41, mkS [41] e t) :=
  scan_rune T 41 (by decide) hp.rp hprep ha

/-- `ByteArray.toList` loops by well-founded recursion, which is irreducible: neither `rfl` nor plain `decide` evaluates the
    bytes of a string literal -/
theorem lparen_bytes : (String.singleton (Char.ofNat 40)).toUTF8.toList = [40] := by with_unfolding_all decide

end Mp
