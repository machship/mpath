/-! C13 / C15 / C16 — the result tree of CueValidate, as far as its error status goes (cue.go: `Path`, `PathIdent`, `Function`,
    `FunctionParameter`, `LogicalOperation`, `Filter`, each with an optional error text), and `HasErrors`. Core-only.

    Every node keeps one flag (an error text is present) and its children. The methods of the code:
    * `Path.HasErrors`, `LogicalOperation.HasErrors`: own error, or some part has errors;
    * `Function.HasErrors`: own error, or some parameter has an error of its own, or the part of some parameter has errors;
    * `PathIdent.HasErrors`: own error only; the filter hanging under it is not consulted (the validator copies what it finds
      there into the error of the path: a fact about the trees it builds, observed by the correspondence, not about this function). -/
namespace Mp.Tree

inductive VT where
  | path (err : Bool) (parts : List VT)
  | ident (err : Bool) (filter : List VT)
  | filt (err : Bool) (cond : List VT)
  | call (err : Bool) (params : List VT)
  | param (err : Bool) (part : List VT)
  | logic (err : Bool) (parts : List VT)
deriving Inhabited

def VT.err : VT → Bool
  | .path e _ | .ident e _ | .filt e _ | .call e _ | .param e _ | .logic e _ => e

def VT.children : VT → List VT
  | .path _ c | .ident _ c | .filt _ c | .call _ c | .param _ c | .logic _ c => c

mutual
/-- `HasErrors` of cue.go -/
def hasErrors : VT → Bool
  | .path e ps => e || anyHas ps
  | .ident e _ => e
  | .filt e c => e || anyHas c
  | .call e ps => e || anyHas ps
  | .param e p => e || anyHas p
  | .logic e ps => e || anyHas ps
def anyHas : List VT → Bool
  | [] => false
  | t :: ts => hasErrors t || anyHas ts
end

mutual
/-- some node of the tree, wherever it sits, carries an error text (what a reader of the marshalled tree sees) -/
def anyNode : VT → Bool
  | .path e c | .ident e c | .filt e c | .call e c | .param e c | .logic e c => e || anyNodeL c
def anyNodeL : List VT → Bool
  | [] => false
  | t :: ts => anyNode t || anyNodeL ts
end

/-- the children `HasErrors` looks into: all of them, except under a path step (its filter) -/
def VT.seen : VT → List VT
  | .ident _ _ => []
  | t => t.children

theorem anyHas_iff (ts : List VT) : anyHas ts = true ↔ ∃ t ∈ ts, hasErrors t = true := by
  induction ts with
  | nil => simp [anyHas]
  | cons t ts ih => simp [anyHas, ih]

theorem anyNodeL_iff (ts : List VT) : anyNodeL ts = true ↔ ∃ t ∈ ts, anyNode t = true := by
  induction ts with
  | nil => simp [anyNodeL]
  | cons t ts ih => simp [anyNodeL, ih]

theorem hasErrors_step (t : VT) : hasErrors t = true ↔ t.err = true ∨ ∃ c ∈ t.seen, hasErrors c = true := by
  cases t <;> simp [hasErrors, VT.err, VT.seen, VT.children, anyHas_iff]

/-- every parameter counts, whatever its position -/
theorem call_hasErrors (e : Bool) (ps : List VT) :
    hasErrors (.call e ps) = true ↔ e = true ∨ ∃ p ∈ ps, hasErrors p = true :=
  hasErrors_step (.call e ps)

theorem param_hasErrors (e : Bool) (part : List VT) :
    hasErrors (.param e part) = true ↔ e = true ∨ ∃ p ∈ part, hasErrors p = true :=
  hasErrors_step (.param e part)

/-- the statement a "last parameter only" loop breaks -/
theorem call_param_anywhere (e : Bool) (pre post : List VT) (pe : Bool) (part : VT) (h : hasErrors part = true) :
    hasErrors (.call e (pre ++ .param pe [part] :: post)) = true :=
  (call_hasErrors _ _).2 (Or.inr ⟨.param pe [part], by simp, (param_hasErrors _ _).2 (Or.inr ⟨part, by simp, h⟩)⟩)

theorem logic_hasErrors (e : Bool) (ps : List VT) :
    hasErrors (.logic e ps) = true ↔ e = true ∨ ∃ p ∈ ps, hasErrors p = true :=
  hasErrors_step (.logic e ps)

theorem path_hasErrors (e : Bool) (ps : List VT) :
    hasErrors (.path e ps) = true ↔ e = true ∨ ∃ p ∈ ps, hasErrors p = true :=
  hasErrors_step (.path e ps)

mutual
theorem hasErrors_sound : (t : VT) → hasErrors t = true → anyNode t = true
  | .ident e c, h => by
      simp only [hasErrors, anyNode, Bool.or_eq_true] at *; exact Or.inl h
  | .path e c, h | .filt e c, h | .call e c, h | .param e c, h | .logic e c, h => by
      simp only [hasErrors, anyNode, Bool.or_eq_true] at *
      exact h.imp id (anyHas_sound c)
theorem anyHas_sound : (ts : List VT) → anyHas ts = true → anyNodeL ts = true
  | [], h => nomatch h
  | t :: ts, h => by
      simp only [anyHas, anyNodeL, Bool.or_eq_true] at *
      exact h.imp (hasErrors_sound t) (anyHas_sound ts)
end

mutual
def noFilter : VT → Bool
  | .path _ c | .filt _ c | .call _ c | .param _ c | .logic _ c => noFilterL c
  | .ident _ f => f.isEmpty
def noFilterL : List VT → Bool
  | [] => true
  | t :: ts => noFilter t && noFilterL ts
end

mutual
theorem hasErrors_complete : (t : VT) → noFilter t = true → anyNode t = true → hasErrors t = true
  | .ident e c, hf, h => by
      simp only [hasErrors, anyNode, noFilter, Bool.or_eq_true, List.isEmpty_iff] at *
      subst hf; simpa [anyNodeL] using h
  | .path e c, hf, h | .filt e c, hf, h | .call e c, hf, h | .param e c, hf, h | .logic e c, hf, h => by
      simp only [hasErrors, anyNode, noFilter, Bool.or_eq_true] at *
      exact h.imp id (anyHas_complete c hf)
theorem anyHas_complete : (ts : List VT) → noFilterL ts = true → anyNodeL ts = true → anyHas ts = true
  | [], _, h => nomatch h
  | t :: ts, hf, h => by
      simp only [anyHas, anyNodeL, noFilterL, Bool.or_eq_true, Bool.and_eq_true] at *
      exact h.imp (hasErrors_complete t hf.1) (anyHas_complete ts hf.2)
end

/-- C13 / C15 / C16, the error status of result trees: without filters `HasErrors` is exactly "some node carries an error text" -/
theorem hasErrors_eq_anyNode (t : VT) (hf : noFilter t = true) : hasErrors t = anyNode t :=
  Bool.eq_iff_iff.2 ⟨hasErrors_sound t, hasErrors_complete t hf⟩

theorem ident_filter_not_consulted (e : Bool) (f g : List VT) : hasErrors (.ident e f) = hasErrors (.ident e g) := by
  simp [hasErrors]

example : hasErrors (.call false [.param false [.path false [.ident true []]], .param false [.path false [.ident false []]]]) = true := by decide
example : hasErrors (.path false [.ident false [.filt true []]]) = false ∧ anyNode (.path false [.ident false [.filt true []]]) = true := by decide
example : noFilter (.logic false [.path false [.ident false [], .call false [.param true []]]]) = true := by decide

end Mp.Tree
