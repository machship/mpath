import Mp.ReflLemmas
/-! C20 on the elaborated tree. `rf*` (root fields): the first key of every `$` path, wherever it occurs; `wr*` (well rooted):
    every `$` path begins with a key. `ReadSet` ties `rfPath` to the model of GetRootFieldsAccessed. Core-only. -/
namespace Mp

mutual
def rfPath : EPath → List Bytes
  | .mk root _ ops =>
    (match root, ops with
     | true, .ident k _ :: _ => [k]
     | _, _ => []) ++ rfParts ops
def rfParts : List EPart → List Bytes
  | [] => []
  | p :: ps => rfPart p ++ rfParts ps
def rfPart : EPart → List Bytes
  | .ident _ _ => []
  | .filter lo => rfLogic lo
  | .func _ params _ => rfParams params       -- the sub-query of Select never sees the original data
def rfParams : List EParam → List Bytes
  | [] => []
  | p :: ps => rfParam p ++ rfParams ps
def rfParam : EParam → List Bytes
  | .path p => rfPath p
  | .logic l => rfLogic l
  | _ => []
def rfLogic : ELogic → List Bytes
  | .mk _ ops => rfLParts ops
def rfLParts : List ELPart → List Bytes
  | [] => []
  | p :: ps => rfLPart p ++ rfLParts ps
def rfLPart : ELPart → List Bytes
  | .path p => rfPath p
  | .logic l => rfLogic l
end

mutual
def wrPath : EPath → Bool
  | .mk root _ ops =>
    (match root, ops with
     | true, .ident _ _ :: _ => true
     | true, _ => false
     | false, _ => true) && wrParts ops
def wrParts : List EPart → Bool
  | [] => true
  | p :: ps => wrPart p && wrParts ps
def wrPart : EPart → Bool
  | .ident _ _ => true
  | .filter lo => wrLogic lo
  | .func _ params _ => wrParams params
def wrParams : List EParam → Bool
  | [] => true
  | p :: ps => wrParam p && wrParams ps
def wrParam : EParam → Bool
  | .path p => wrPath p
  | .logic l => wrLogic l
  | _ => true
def wrLogic : ELogic → Bool
  | .mk _ ops => wrLParts ops
def wrLParts : List ELPart → Bool
  | [] => true
  | p :: ps => wrLPart p && wrLParts ps
def wrLPart : ELPart → Bool
  | .path p => wrPath p
  | .logic l => wrLogic l
end

def Agree (R : List Bytes) (o o' : GoVal) : Prop := ∀ k ∈ R, identDo k o = identDo k o'

theorem agree_append {A B : List Bytes} {o o' : GoVal} : Agree (A ++ B) o o' ↔ Agree A o o' ∧ Agree B o o' :=
  List.forall_mem_append

/-! Every function of the evaluator only hands the original data on to those it calls, except `sPath` at a `$`: with the calls
    rewritten by the induction hypotheses the two sides are one term. -/
mutual
theorem ni_parts (ops : List EPart) (o o' : GoVal) (hw : wrParts ops = true) (ha : Agree (rfParts ops) o o') :
    ∀ data pn pv, sParts ops data o pn pv = sParts ops data o' pn pv := by
  intro data pn pv
  cases ops with
  | nil => rfl
  | cons op rest =>
    simp only [wrParts, Bool.and_eq_true] at hw
    simp only [rfParts, agree_append] at ha
    unfold sParts
    simp only [ni_part op o o' hw.1 ha.1, ni_parts rest o o' hw.2 ha.2]
termination_by structural ops

theorem ni_part (op : EPart) (o o' : GoVal) (hw : wrPart op = true) (ha : Agree (rfPart op) o o') :
    ∀ cur, sPart op cur o = sPart op cur o' := by
  intro cur
  cases op with
  | ident name prop => rfl
  | filter lo =>
    unfold sPart
    simp only [ni_logic lo o o' hw ha]
  | func name params sel =>
    unfold sPart
    rw [ni_params params o o' hw ha cur]
termination_by structural op

theorem ni_params (ps : List EParam) (o o' : GoVal) (hw : wrParams ps = true) (ha : Agree (rfParams ps) o o') :
    ∀ cur, sParams ps cur o = sParams ps cur o' := by
  intro cur
  cases ps with
  | nil => rfl
  | cons p rest =>
    simp only [wrParams, Bool.and_eq_true] at hw
    simp only [rfParams, agree_append] at ha
    unfold sParams
    rw [ni_param p o o' hw.1 ha.1 cur, ni_params rest o o' hw.2 ha.2 cur]
termination_by structural ps

theorem ni_param (p : EParam) (o o' : GoVal) (hw : wrParam p = true) (ha : Agree (rfParam p) o o') :
    ∀ cur, sParam p cur o = sParam p cur o' := by
  intro cur
  cases p with
  | num d => rfl
  | str s => rfl
  | bool b => rfl
  | path pp => unfold sParam; rw [ni_path_full pp o o' hw ha cur]
  | logic l => unfold sParam; rw [ni_logic l o o' hw ha cur]
termination_by structural p

/-- C20, non-interference: two roots that answer alike on the root fields of a well-rooted path give the same outcome -/
theorem ni_path_full (p : EPath) (o o' : GoVal) (hw : wrPath p = true) (ha : Agree (rfPath p) o o') :
    ∀ cur, sPath p cur o = sPath p cur o' := by
  intro cur
  cases p with
  | mk root isFilter ops =>
    simp only [wrPath, Bool.and_eq_true] at hw
    simp only [rfPath, agree_append] at ha
    unfold sPath
    simp only [ni_parts ops o o' hw.2 ha.2]
    split at hw
    · -- `$` and a key: the root is the data of the first step, which reads it through that key
      unfold sParts
      simp only [if_true, sPart_ident, ha.1 _ (List.mem_singleton_self _)]
    · cases hw.1
    · -- `@`: the root is not the data
      rfl
termination_by structural p

theorem ni_logic (l : ELogic) (o o' : GoVal) (hw : wrLogic l = true) (ha : Agree (rfLogic l) o o') :
    ∀ cur, sLogic l cur o = sLogic l cur o' := by
  intro cur
  cases l with
  | mk ty ops => unfold sLogic; exact ni_lparts ty ops o o' hw ha cur
termination_by structural l

theorem ni_lparts (ty : Bytes) (ops : List ELPart) (o o' : GoVal) (hw : wrLParts ops = true) (ha : Agree (rfLParts ops) o o') :
    ∀ cur, sLParts ty ops cur o = sLParts ty ops cur o' := by
  intro cur
  cases ops with
  | nil => rfl
  | cons op rest =>
    simp only [wrLParts, Bool.and_eq_true] at hw
    simp only [rfLParts, agree_append] at ha
    unfold sLParts
    simp only [ni_lpart op o o' hw.1 ha.1, ni_lparts ty rest o o' hw.2 ha.2]
termination_by structural ops

theorem ni_lpart (op : ELPart) (o o' : GoVal) (hw : wrLPart op = true) (ha : Agree (rfLPart op) o o') :
    ∀ cur, sLPart op cur o = sLPart op cur o' := by
  intro cur
  cases op with
  | path p => unfold sLPart; exact ni_path_full p o o' hw ha cur
  | logic l => unfold sLPart; exact ni_logic l o o' hw ha cur
termination_by structural op
end

#print axioms ni_path_full
end Mp
