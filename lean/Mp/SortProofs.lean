import Mp.BytesOrd
/-! C20: the sort at the end of GetRootFieldsAccessed returns the names collected, no more and no fewer (`mem_sortUniq`), strictly
    sorted. -/
namespace Mp

theorem mem_insertSortedB (x p : Bytes) (l : List Bytes) : x ∈ insertSortedB p l ↔ x = p ∨ x ∈ l := by
  fun_induction insertSortedB p l with
  | case1 => simp
  | case2 q qs h =>
    obtain rfl : p = q := by simpa using h
    simp
  | case3 q qs _ _ => simp
  | case4 q qs _ _ ih =>
    simp only [List.mem_cons, ih]
    exact or_left_comm

theorem mem_sortUniq (x : Bytes) (l : List Bytes) : x ∈ sortUniq l ↔ x ∈ l := by
  rw [sortUniq, List.foldl_eq_foldr_reverse, ← List.mem_reverse (as := l)]
  induction l.reverse with
  | nil => rfl
  | cons y ys ih => rw [List.foldr_cons, mem_insertSortedB, ih, List.mem_cons]

def StrictSorted (l : List Bytes) : Prop := l.Pairwise (fun a b => bytesLt a b = true)

theorem insertSortedB_sorted (p : Bytes) (l : List Bytes) (hs : StrictSorted l) : StrictSorted (insertSortedB p l) := by
  fun_induction insertSortedB p l with
  | case1 => exact List.pairwise_singleton _ _
  | case2 q qs _ => exact hs
  | case3 q qs _ hlt =>
    rw [bytesLtA_eq] at hlt
    exact List.pairwise_cons.mpr ⟨List.forall_mem_cons.mpr ⟨hlt, fun x hx => bytesLt_strict.trans p q x hlt (List.rel_of_pairwise_cons hs hx)⟩, hs⟩
  | case4 q qs hne hnlt ih =>
    have ⟨hq, hqs⟩ := List.pairwise_cons.mp hs
    rw [bytesLtA_eq] at hnlt
    -- `q` stays in front: it is below `p` (neither equal nor above) and below the rest
    have hqp : bytesLt q p = true := (bytesLt_strict.total p q (by simpa using hne)).resolve_left hnlt
    exact List.pairwise_cons.mpr ⟨fun x hx => ((mem_insertSortedB x p qs).mp hx).elim (· ▸ hqp) (hq x), ih hqs⟩

theorem sortUniq_sorted (l : List Bytes) : StrictSorted (sortUniq l) :=
  List.foldlRecOn l _ List.Pairwise.nil (fun acc h x _ => insertSortedB_sorted x acc h)

/-- C20: the list returned by the model of GetRootFieldsAccessed is sorted and free of duplicates, for every query -/
theorem rootTop_sorted_nodup (t : TopOp) : StrictSorted (rootTop t) ∧ (rootTop t).Nodup := by
  have hs : StrictSorted (rootTop t) := by cases t <;> exact sortUniq_sorted _
  exact ⟨hs, bytesLt_strict.nodup hs⟩

#print axioms mem_sortUniq
#print axioms rootTop_sorted_nodup
end Mp
