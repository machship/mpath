import Mp.CueAst
import Mp.CueDeps
import Mp.CueWalk
/-! C13 / C14 / C15 on the validator model that runs on the parsed operation (`Mp/CueAst.lean`). -/
namespace Mp
open Generated

theorem finishKeys_cases (root : CTy) (bl ks : List String) :
    finishKeys root bl ks = none ∨ (∃ c, finishKeys root bl ks = some (.stopped [c])) ∨
      ∃ last prev, finishKeys root bl ks = some (.calls last prev false []) := by
  unfold finishKeys
  cases ks with
  | nil => exact Or.inl rfl
  | cons k ks =>
    simp only
    cases validateKeys root bl (k :: ks) [] none true with
    | rej c => exact Or.inr (Or.inl ⟨c, rfl⟩)
    | err => exact Or.inl rfl
    | acc t io =>
      cases findValueAtPath root (k :: ks) with
      | none => exact Or.inl rfl
      | some v => exact Or.inr (Or.inr ⟨v, _, rfl⟩)

theorem vPath_eq_some {root : CTy} {bl : List String} {top i isRoot f m : Bool} {ops : List PathPart} {us : Bytes}
    {r : List String × (String × String)} :
    vPath root bl top (.mk i isRoot f m ops us) = some r ↔ (isRoot = true ∨ top = true) ∧ vParts root bl (.keys []) ops = some r := by
  cases isRoot <;> cases top <;> simp [vPath]

theorem vLogic_eq_some {root : CTy} {bl : List String} {top inv f : Bool} {t us : Bytes} {ops : List LogicPart}
    {r : List String × (String × String)} :
    vLogic root bl top (.mk inv f t ops us) = some r ↔
      inv = false ∧ ∃ errs, vLParts root bl top ops = some errs ∧ (errs, ("Boolean", "Single")) = r := by
  cases inv <;> cases h : vLParts root bl top ops <;> simp [vLogic, h]

theorem vParts_keys_end {root : CTy} {bl ks : List String} {ops : List PathPart} (h : ∀ n pr us rest, ops ≠ .ident n pr us :: rest) :
    vParts root bl (.keys ks) ops = (finishKeys root bl ks).bind fun s => vParts root bl s ops := by
  cases ops with
  | nil =>
    simp only [vParts]
    rcases finishKeys_cases root bl ks with hc | ⟨c, hc⟩ | ⟨last, prev, hc⟩ <;> rw [hc] <;> rfl
  | cons op rest =>
    cases op with
    | ident n pr us => exact absurd rfl (h n pr us rest)
    | filter lo us =>
      simp only [vParts]
      cases finishKeys root bl ks <;> rfl
    | func inv nm ps us =>
      simp only [vParts]
      rcases finishKeys_cases root bl ks with hc | ⟨c, hc⟩ | ⟨last, prev, hc⟩ <;> rw [hc] <;> cases inv <;> rfl

theorem vParts_calls_func {root : CTy} {bl : List String} {last : CTy} {prev : String × String} {pwf inv : Bool} {e : List String}
    {nm us : Bytes} {ps : List Param} {rest : List PathPart} {r : List String × (String × String)}
    (h : vParts root bl (.calls last prev pwf e) (.func inv nm ps us :: rest) = some r) :
    ∃ fd perrs, (bytesToString nm).bind lookupFunc = some fd ∧ vParams root bl fd 0 none ps = some perrs ∧
      vParts root bl (.calls last (funcReturns fd prev pwf last) true (e ++ (if validOnOk fd prev then [] else ["other"]) ++ perrs)) rest
        = some r := by
  simp only [vParts] at h
  split at h
  · cases h       -- an invalid call
  · split at h
    · cases h     -- no such function
    · next fd hfd =>
      split at h
      · cases h   -- no answer on an argument
      · next perrs hp => exact ⟨fd, perrs, hfd, hp, h⟩

theorem vParts_start {root : CTy} {bl : List String} {ops : List PathPart} {r : List String × (String × String)}
    (h : vParts root bl (.keys []) ops = some r) : ∃ name pr us rest, ops = .ident name pr us :: rest := by
  match ops with
  | .ident name pr us :: rest => exact ⟨name, pr, us, rest, rfl⟩
  | [] | .filter .. :: _ | .func .. :: _ =>
    rw [vParts_keys_end (by simp)] at h
    cases h

theorem finishKeys_blocked (root : CTy) (bl : List String) (k : String) (ks : List String) (h : k ∈ bl) :
    finishKeys root bl (k :: ks) = some (.stopped ["blocked"]) := by
  unfold finishKeys
  simp only [blocked_first_key_rejected root bl k ks h]

theorem finishKeys_calls (root : CTy) (bl : List String) (ks : List String) (last : CTy) (prev : String × String) (pwf : Bool) (e : List String)
    (h : finishKeys root bl ks = some (.calls last prev pwf e)) : e = [] := by
  rcases finishKeys_cases root bl ks with hc | ⟨c, hc⟩ | ⟨l, p, hc⟩
  · rw [hc] at h; cases h
  · rw [hc] at h; cases h
  · rw [hc] at h; cases h; rfl

theorem stopped_keeps (root : CTy) (bl : List String) (errs : List String) :
    ∀ (rest : List PathPart) (r : List String × (String × String)), vParts root bl (.stopped errs) rest = some r → r.1 = errs := by
  intro rest r h
  induction rest with
  | nil =>
    cases h
    rfl
  | cons op rest ih =>
    cases op with
    | ident => exact ih h
    | filter => cases h
    | func inv =>
      cases inv with
      | true => cases h
      | false => exact ih h

theorem keys_blocked (root : CTy) (bl : List String) (k : String) (hk : k ∈ bl) :
    ∀ (rest : List PathPart) (ks : List String) (r : List String × (String × String)),
      vParts root bl (.keys (k :: ks)) rest = some r → r.1 = ["blocked"]
  | .ident n pr us :: rest, ks, r, h => by
    simp only [vParts] at h
    split at h
    · exact keys_blocked root bl k hk rest _ r h
    · cases h
  | [], ks, r, h | .filter .. :: _, ks, r, h | .func .. :: _, ks, r, h => by
    rw [vParts_keys_end (by simp), finishKeys_blocked root bl k ks hk] at h
    exact stopped_keeps root bl ["blocked"] _ r h

/-- C15: a `$` path (or a top-level `@` path) whose first key is a blocked root field is never accepted, whatever keys and
    calls follow: where the model answers at all, the errors it reports are exactly "not available". The proof does not use `hr`:
    `vPath` answers for no other kind of path (`vPath_eq_some`), so `h` says it already -/
theorem blocked_head_errs (root : CTy) (bl : List String) (top : Bool) (i isRoot f m pr : Bool) (name us us' : Bytes) (rest : List PathPart)
    (n : String) (hn : bytesToString name = some n) (hb : n ∈ bl) (hr : isRoot = true ∨ top = true)
    (r : List String × (String × String))
    (h : vPath root bl top (.mk i isRoot f m (.ident name pr us :: rest) us') = some r) : r.1 = ["blocked"] := by
  have h2 := (vPath_eq_some.1 h).2
  simp only [vParts, hn, List.nil_append] at h2
  exact keys_blocked root bl n hb rest [] r h2

theorem blocked_head_never_accepted (root : CTy) (bl : List String) (top : Bool) (i isRoot f m pr : Bool) (name us us' : Bytes) (rest : List PathPart)
    (n : String) (hn : bytesToString name = some n) (hb : n ∈ bl) (hr : isRoot = true ∨ top = true)
    (r : List String × (String × String))
    (h : vPath root bl top (.mk i isRoot f m (.ident name pr us :: rest) us') = some r) :
    verdictOf (some r) = some "REJ blocked" := by
  obtain ⟨errs, ty⟩ := r
  obtain rfl : errs = ["blocked"] := blocked_head_errs root bl top i isRoot f m pr name us us' rest n hn hb hr _ h
  rfl

theorem accepted_head_not_blocked (root : CTy) (bl : List String) (i f m pr : Bool) (name us us' : Bytes) (rest : List PathPart)
    (n : String) (hn : bytesToString name = some n) (ty : String × String)
    (h : vTop root bl (.path (.mk i true f m (.ident name pr us :: rest) us')) = some ([], ty)) : n ∉ bl := by
  intro hb
  cases blocked_head_errs root bl true i true f m pr name us us' rest n hn hb (Or.inl rfl) _ h


def NoneBlocked (bl : List String) (l : List Bytes) : Prop := ∀ k ∈ l, ∀ n, bytesToString k = some n → n ∉ bl

theorem noneBlocked_nil (bl : List String) : NoneBlocked bl [] := nofun
theorem noneBlocked_append {bl : List String} {a b : List Bytes} (ha : NoneBlocked bl a) (hb : NoneBlocked bl b) :
    NoneBlocked bl (a ++ b) :=
  List.forall_mem_append.2 ⟨ha, hb⟩

theorem vParams_cons_eq_some {root : CTy} {bl : List String} {fd : FuncDesc} {i : Nat} {vp : Option Nat} {p : Param} {rest : List Param}
    {e : List String} :
    vParams root bl fd i vp (p :: rest) = some e ↔
      ∃ r, vParam root bl p = some r ∧ ∃ more, vParams root bl fd (i + 1) (paramCheck fd i vp r.2).2 rest = some more ∧
        (if r.1.isEmpty then (paramCheck fd i vp r.2).1 else r.1) ++ more = e := by
  simp only [vParams]
  cases vParam root bl p with
  | none => simp only [reduceCtorEq, false_and, exists_false]
  | some r =>
    cases hr : vParams root bl fd (i + 1) (paramCheck fd i vp r.2).2 rest <;>
      simp only [hr, reduceCtorEq, Option.some.injEq, exists_eq_left', false_and, exists_false]

def PartsOK (bl : List String) (st : PState) (ops : List PathPart) : Prop :=
  match st with
  | .stopped e => e = []
  | .keys _ => NoneBlocked bl (dhParts ops)
  | .calls _ _ _ e => e = [] ∧ NoneBlocked bl (dhParts ops)

/-! `acc_path … acc_lparts`: what each of `vPath … vLParts` accepted reads no blocked root field. The errors of a path only ever
    grow along the walk, so "no error at the end" means no error at any argument on the way. -/
mutual
theorem acc_path (root : CTy) (bl : List String) (top : Bool) (p : PathOp) (ty : String × String)
    (h : vPath root bl top p = some ([], ty)) : NoneBlocked bl (dhPath p) := by
  cases p with
  | mk i isRoot f m ops us =>
    have hparts := (vPath_eq_some.1 h).2
    refine noneBlocked_append ?_ (acc_parts root bl (.keys []) ops ty hparts)
    cases isRoot with
    | false => exact noneBlocked_nil bl
    | true =>
      -- the head of a `$` path: a blocked one would have left its error
      obtain ⟨name, pr, us2, rest, rfl⟩ := vParts_start hparts
      intro k hk n hn hb
      obtain rfl : k = name := by simpa [firstKey] using hk
      cases blocked_head_errs root bl top i true f m pr k us2 us rest n hn hb (Or.inl rfl) _ h
termination_by structural p
theorem acc_parts (root : CTy) (bl : List String) (st : PState) (ops : List PathPart) (ty : String × String)
    (h : vParts root bl st ops = some ([], ty)) : PartsOK bl st ops := by
  cases ops with
  | nil =>
    cases st with
    | keys ks => exact noneBlocked_nil bl
    | calls last prev pwf e =>
      cases h
      exact ⟨rfl, noneBlocked_nil bl⟩
    | stopped e => exact (stopped_keeps root bl e _ _ h).symm
  | cons op rest =>
    cases op with
    | ident name pr us =>
      cases st with
      | keys ks =>
        simp only [vParts] at h
        split at h
        · exact acc_parts root bl _ rest ty h
        · cases h
      | calls => cases h
      | stopped e => exact (stopped_keeps root bl e _ _ h).symm
    | filter => cases h
    | func inv nm ps us =>
      -- the call itself: what follows it is accepted, so no error has been met so far, nor in its arguments
      have call : ∀ last prev pwf e, vParts root bl (.calls last prev pwf e) (.func inv nm ps us :: rest) = some ([], ty) →
          PartsOK bl (.calls last prev pwf e) (.func inv nm ps us :: rest) := by
        intro last prev pwf e hh
        obtain ⟨fd, perrs, -, hp, hr⟩ := vParts_calls_func hh
        obtain ⟨he, hrest⟩ := acc_parts root bl _ rest ty hr
        simp only [List.append_eq_nil_iff] at he
        obtain ⟨⟨h1, -⟩, rfl⟩ := he
        exact ⟨h1, noneBlocked_append (acc_params root bl fd 0 none ps hp) hrest⟩
      cases st with
      | keys ks =>
        rw [vParts_keys_end (by simp)] at h
        rcases finishKeys_cases root bl ks with hc | ⟨c, hc⟩ | ⟨last, prev, hc⟩ <;> rw [hc] at h
        · cases h
        · cases stopped_keeps root bl [c] _ _ h
        · exact (call last prev false [] h).2
      | calls last prev pwf e => exact call last prev pwf e h
      | stopped e => exact (stopped_keeps root bl e _ _ h).symm
termination_by structural ops
theorem acc_params (root : CTy) (bl : List String) (fd : FuncDesc) (i : Nat) (vp : Option Nat) (ps : List Param)
    (h : vParams root bl fd i vp ps = some []) : NoneBlocked bl (dhParams ps) := by
  cases ps with
  | nil => exact noneBlocked_nil bl
  | cons p rest =>
    obtain ⟨⟨perrs, pty⟩, hp, more, hr, he⟩ := vParams_cons_eq_some.1 h
    obtain ⟨he, rfl⟩ := List.append_eq_nil_iff.1 he
    obtain rfl : perrs = [] := by cases perrs <;> simp at he ⊢
    have hparam := acc_param root bl p pty hp
    have hrest := acc_params root bl fd (i + 1) _ rest hr
    cases p with
    | num _ | str _ | bool _ => exact hrest
    | path _ | logic _ => exact noneBlocked_append hparam hrest
termination_by structural ps
theorem acc_param (root : CTy) (bl : List String) (p : Param) (ty : String × String)
    (h : vParam root bl p = some ([], ty)) :
    NoneBlocked bl (match p with | .path q => dhPath q | .logic l => dhLogic l | _ => []) := by
  cases p with
  | num _ | str _ | bool _ => exact noneBlocked_nil bl
  | path q => exact acc_path root bl false q ty h
  | logic l => exact acc_logic root bl false l ty h
termination_by structural p
theorem acc_logic (root : CTy) (bl : List String) (top : Bool) (l : LogicOp) (ty : String × String)
    (h : vLogic root bl top l = some ([], ty)) : NoneBlocked bl (dhLogic l) := by
  cases l with
  | mk inv f t ops us =>
    obtain ⟨-, errs, hl, he⟩ := vLogic_eq_some.1 h
    cases he
    exact acc_lparts root bl top ops hl
termination_by structural l
theorem acc_lparts (root : CTy) (bl : List String) (top : Bool) (ops : List LogicPart)
    (h : vLParts root bl top ops = some []) : NoneBlocked bl (dhLParts ops) := by
  cases ops with
  | nil => exact noneBlocked_nil bl
  | cons op rest =>
    cases op with
    | path p =>
      simp only [vLParts] at h
      split at h
      · next errs pty more hp hr =>
        obtain ⟨he, rfl⟩ := List.append_eq_nil_iff.1 (Option.some.inj h)
        obtain rfl : errs = [] := by cases errs <;> simp at he ⊢
        exact noneBlocked_append (acc_path root bl top p pty hp) (acc_lparts root bl top rest hr)
      · cases h
    | logic l =>
      simp only [vLParts] at h
      split at h
      · next errs pty more hp hr =>
        obtain ⟨rfl, rfl⟩ := List.append_eq_nil_iff.1 (Option.some.inj h)
        exact noneBlocked_append (acc_logic root bl top l pty hp) (acc_lparts root bl top rest hr)
      · cases h
termination_by structural ops
end

/-- C15: a query the validator model accepts reads no blocked root field through any `$` path, at any depth of arguments and
    groups (`Mp.rejected_wherever` is the same for the walk of `Mp/CueWalk.lean`, which the driver evaluates on the same query text) -/
theorem accepted_reads_no_blocked_field (root : CTy) (bl : List String) (t : TopOp) (ty : String × String)
    (h : vTop root bl t = some ([], ty)) : NoneBlocked bl (dhTop t) := by
  cases t with
  | path p => exact acc_path root bl true p ty h
  | logic l => exact acc_logic root bl true l ty h


theorem validateKeys_acc_found (root : CTy) (bl : List String) (ks p : List String) (cur : Option (String × String)) (first : Bool)
    (t io : String) (hne : ks ≠ []) (h : validateKeys root bl ks p cur first = .acc t io) :
    (findValueAtPath root (p ++ ks)).isSome = true := by
  -- `validateKeys` in order: no key left (1, 2); the type so far stops the walk (3); blocked, not found, no kind (4–6); go on (7).
  -- Case 7 binds, in order: `k ks p cur first`, `stop` and `stop = none`, "not blocked", `q`, the value `v` found there and its
  -- equation `hv`, its kind and that equation, the induction hypothesis
  fun_induction validateKeys root bl ks p cur first with
  | case1 | case2 => exact absurd rfl hne
  | case3 k ks p cur first stop r hr =>
    -- the test of the type so far only ever rejects
    subst h
    simp only [stop] at hr
    split at hr <;> (try split at hr) <;> simp at hr
  | case4 | case5 | case6 => cases h
  -- the last branch: the key is found (`hv`) and the loop goes on from `q = p ++ [k]`
  | case7 k ks p _ _ _ _ _ q v hv _ _ ih =>
    cases ks with
    | nil => simp [q, hv]
    | cons k2 ks => simpa [q] using ih (by simp) h

def keyPartsOf (names : List Bytes) : List PathPart := names.map (fun n => PathPart.ident n false [])

theorem vParts_idents (root : CTy) (bl : List String) (names : List Bytes) (strs ks0 : List String)
    (h : names.map bytesToString = strs.map some) :
    vParts root bl (.keys ks0) (keyPartsOf names) = vParts root bl (.keys (ks0 ++ strs)) [] := by
  induction names generalizing strs ks0 with
  | nil =>
    obtain rfl : strs = [] := by simpa using h.symm
    simp [keyPartsOf]
  | cons n ns ih =>
    cases strs with
    | nil => simp at h
    | cons s ss =>
      simp only [List.map_cons, List.cons.injEq] at h
      simp only [keyPartsOf, List.map_cons, vParts, h.1]
      rw [← keyPartsOf, ih ss (ks0 ++ [s]) h.2, List.append_assoc]
      rfl

/-- C13 / C15: a `$` path of keys is validated by the operation model exactly as `validateKeys` (`Mp/Cue.lean`) validates the
    keys, so what is proved of `validateKeys` / `validate` (`validate_walk`, `blocked_iff`, `offered_coherent`) holds of `vTop` there -/
theorem vTop_key_path (root : CTy) (bl : List String) (i f m : Bool) (us : Bytes) (names : List Bytes) (strs : List String)
    (hne : strs ≠ []) (h : names.map bytesToString = strs.map some) :
    vTop root bl (.path (.mk i true f m (keyPartsOf names) us)) =
      match validateKeys root bl strs [] none true with
      | .acc t io => some ([], (t, io))
      | .rej c => some ([c], ("", ""))
      | .err => none := by
  simp only [vTop, vPath, Bool.not_true, Bool.false_and, Bool.false_eq_true, if_false]
  rw [vParts_idents root bl names strs [] h]
  cases strs with
  | nil => exact absurd rfl hne
  | cons s ss =>
    simp only [List.nil_append, vParts, finishKeys]
    cases hv : validateKeys root bl (s :: ss) [] none true with
    | rej c => rfl
    | err => rfl
    | acc t io =>
      -- what the loop accepted is found when it is looked up once more
      have := validateKeys_acc_found root bl (s :: ss) [] none true t io (by simp) hv
      cases hf : findValueAtPath root (s :: ss) with
      | none => simp [hf] at this
      | some v => rfl


def isLitParam : Param → Bool | .num _ => true | .str _ => true | .bool _ => true | _ => false

theorem vParam_lit (root : CTy) (bl : List String) (p : Param) (h : isLitParam p = true) : ∃ pty, vParam root bl p = some ([], pty) := by
  cases p <;> simp [isLitParam] at h <;> simp [vParam]

theorem paramCheck_keeps_none (fd : FuncDesc) (hv : ∀ q ∈ fd.params, q.2 ≠ "Variadic") (i : Nat) (pty : String × String) :
    (paramCheck fd i none pty).2 = none := by
  unfold paramCheck
  simp only [Option.getD_none]
  cases hq : fd.params[i]? with
  | none => rfl
  | some pd => simp [hv pd (List.mem_of_getElem? hq)]

theorem vParams_lits_some (root : CTy) (bl : List String) (fd : FuncDesc) (hv : ∀ q ∈ fd.params, q.2 ≠ "Variadic") :
    ∀ (ps : List Param) (i : Nat), (∀ p ∈ ps, isLitParam p = true) → ∃ e, vParams root bl fd i none ps = some e := by
  intro ps
  induction ps with
  | nil => intro i _; exact ⟨[], rfl⟩
  | cons p rest ih =>
    intro i hl
    obtain ⟨pty, hp⟩ := vParam_lit root bl p (hl p (by simp))
    obtain ⟨more, hm⟩ := ih (i + 1) (fun q hq => hl q (by simp [hq]))
    exact ⟨_, vParams_cons_eq_some.2 ⟨_, hp, more, by rw [paramCheck_keeps_none fd hv]; exact hm, rfl⟩⟩

/-- C14: more literal arguments than the descriptor declares (no variadic parameter): some argument is in error
    (`over_long_rejected` in `Mp/CueFunc3.lean` is the same clause for `validateCalls`, which only counts the arguments) -/
theorem over_long_literals_rejected (root : CTy) (bl : List String) (fd : FuncDesc) (hv : ∀ q ∈ fd.params, q.2 ≠ "Variadic") :
    ∀ (ps : List Param) (i : Nat), (∀ p ∈ ps, isLitParam p = true) → i ≤ fd.params.length → fd.params.length < i + ps.length →
      ∃ e, vParams root bl fd i none ps = some e ∧ e ≠ [] := by
  intro ps
  induction ps with
  | nil => intro i _ hi hlen; simp at hlen; omega
  | cons p rest ih =>
    intro i hl hi0 hlen
    obtain ⟨pty, hp⟩ := vParam_lit root bl p (hl p (by simp))
    have hl' : ∀ q ∈ rest, isLitParam q = true := fun q hq => hl q (by simp [hq])
    have hstep : ∀ more, vParams root bl fd (i + 1) none rest = some more →
        vParams root bl fd i none (p :: rest) = some ((paramCheck fd i none pty).1 ++ more) := fun more hm =>
      vParams_cons_eq_some.2 ⟨_, hp, more, by rw [paramCheck_keeps_none fd hv]; exact hm, rfl⟩
    by_cases hi : fd.params.length ≤ i
    · -- this argument is itself beyond the declared ones
      obtain ⟨more, hm⟩ := vParams_lits_some root bl fd hv rest (i + 1) hl'
      have hc : (paramCheck fd i none pty).1 = ["other"] := by simp [paramCheck, List.getElem?_eq_none hi]
      exact ⟨_, hstep more hm, by simp [hc]⟩
    · obtain ⟨e, he, hne⟩ := ih (i + 1) hl' (by omega) (by simp at hlen; omega)
      exact ⟨_, hstep e he, by simp [hne]⟩

end Mp
