import Mp.LexProofs
import Mp.Parse
/-! C08 for the parser model, by one induction on the fuel over its six functions (`allGood`). Core-only. -/
namespace Mp

/-- fuel for a loop entered on token `r` in state `s`: two units per remaining byte (the `parse*` call on it, the loop
    re-entered after that call), `+ 3` so that a call made with one unit less still has `ReqParse`. On `.rune 0`, which a
    nested call that consumed nothing hands back, one unit less will do: the loop makes no nested call on it. -/
def ReqLoop (F : Nat) (r : TokKind) (s : Sc) : Prop :=
  match r with
  | .eof => 1 ≤ F
  | .rune 0 => 2 * rem s + 3 ≤ F + 1
  | _ => 2 * rem s + 3 ≤ F

/-- fuel a `parse*` function needs: one scan, then `ReqLoop` -/
abbrev ReqParse (F : Nat) (s : Sc) : Prop := 2 * rem s + 2 ≤ F

/-- a loop entered at the end of the input hands back `.rune 0`, not `.eof` (see `pathLoop`) -/
def LoopOK {α} (r : TokKind) (s : Sc) : PR α → Prop
  | .ok _ r1 s1 => rem s1 ≤ rem s ∧ (r = .eof → r1 = .rune 0)
  | .err => True
  | _ => False

/-- a `parse*` call that consumed nothing stopped at the end of the input -/
def ParseOK {α} (s : Sc) : PR α → Prop
  | .ok _ r1 s1 => rem s1 ≤ rem s ∧ (rem s1 = rem s → r1 = .rune 0)
  | .err => True
  | _ => False

theorem LoopOK.mono {α} {r r' : TokKind} {s s' : Sc} {res : PR α} (h : LoopOK r' s' res) (hl : rem s' ≤ rem s)
    (hr : r ≠ .eof) : LoopOK r s res := by
  cases res with
  | ok a r1 s1 => exact ⟨Nat.le_trans h.1 hl, fun he => absurd he hr⟩
  | _ => exact h

/-- `r'` came from a scan from `s` (or from a state with no more input): if nothing was consumed, it was `.eof` -/
theorem LoopOK.parseOK {α} {r' : TokKind} {s s' : Sc} {res : PR α} (h : LoopOK r' s' res) (hp : Progress s (r', s')) :
    ParseOK s res := by
  cases res with
  | ok a r1 s1 =>
    have h1 : rem s1 ≤ rem s' := h.1
    exact ⟨Nat.le_trans h1 hp.1, fun heq => h.2 (Decidable.by_contra fun hr => by have : rem s' < rem s := hp.2 hr; omega)⟩
  | _ => exact h

@[elab_as_elim]
theorem ParseOK.elim {β} {s : Sc} {P : PR β → Prop} {nested : PR β} (hn : ParseOK s nested)
    (ok : ∀ b r1 s1, rem s1 ≤ rem s → (rem s1 = rem s → r1 = .rune 0) → P (.ok b r1 s1)) (err : P .err) : P nested := by
  cases nested with
  | ok b r1 s1 => exact ok b r1 s1 hn.1 hn.2
  | err => exact err
  | panic | fuel => exact False.elim hn

theorem ReqLoop.one_le {F r s} (h : ReqLoop F r s) : 1 ≤ F := by
  unfold ReqLoop at h
  split at h <;> omega

theorem ReqLoop.reqParse {F r s} (h : ReqLoop F r s) (hr : r ≠ .eof) : ReqParse F s := by
  unfold ReqLoop at h
  split at h
  · exact absurd rfl hr
  · omega
  · omega

theorem ReqLoop.full_bound {F r s} (h : ReqLoop F r s) (hr : r ≠ .eof) (h0 : r ≠ .rune 0) : 2 * rem s + 3 ≤ F := by
  unfold ReqLoop at h
  split at h
  · exact absurd rfl hr
  · exact absurd rfl h0
  · exact h

theorem reqLoop_of_scan (T : Tables) {F : Nat} {s : Sc} (h : ReqParse (F + 1) s) :
    ReqLoop F (scan T s).1 (scan T s).2 := by
  obtain ⟨hle, hlt⟩ := scan_progress T s
  unfold ReqLoop
  split
  · omega
  · rename_i h0
    have := hlt (by rw [h0]; nofun); omega
  · rename_i h1 _
    have := hlt h1; omega

theorem scan_le (T : Tables) (s : Sc) : rem (scan T s).2 ≤ rem s := (scan_progress T s).1

theorem reqLoop_after_nested {F : Nat} {s s1 : Sc} {r1 : TokKind} (hb : 2 * rem s + 3 ≤ F + 1)
    (hle : rem s1 ≤ rem s) (hz : rem s1 = rem s → r1 = .rune 0) : ReqLoop F r1 s1 := by
  unfold ReqLoop
  split
  · omega
  · omega
  · rename_i h0
    have : rem s1 ≠ rem s := fun h => h0 (hz h)
    omega

structure AllGood (T : Tables) (F : Nat) : Prop where
  path : ∀ isF mE r s, ReqParse F s → ParseOK s (parsePath T F isF mE r s)
  pathL : ∀ root isF mE ops us r s, ReqLoop F r s → LoopOK r s (pathLoop T F root isF mE ops us r s)
  logic : ∀ isF r s, ReqParse F s → ParseOK s (parseLogic T F isF r s)
  logicL : ∀ inv isF ty ops us r s, ReqLoop F r s → LoopOK r s (logicLoop T F inv isF ty ops us r s)
  func : ∀ s, ReqParse F s → ParseOK s (parseFunc T F s)
  funcL : ∀ inv name ps us r s, ReqLoop F r s → LoopOK r s (funcLoop T F inv name ps us r s)

/-! Every branch of the six functions returns at once or is one of the next three steps. The first two scan from a state
    `s'` with no more input than the entry state `s` (`s`, or what a scan or `dealWithNumbers` left of it); the third
    re-enters the loop where a nested `parse*` call stopped, which needs a token other than `.eof` and `.rune 0`. -/

theorem parse_then_loop (T : Tables) {α} {F : Nat} {s s' : Sc} (hreq : ReqParse (F + 1) s) (hle : rem s' ≤ rem s)
    {loop : TokKind → Sc → PR α} (hloop : ∀ r1 s1, ReqLoop F r1 s1 → LoopOK r1 s1 (loop r1 s1)) :
    ParseOK s (loop (scan T s').1 (scan T s').2) :=
  (hloop _ _ (reqLoop_of_scan T (by omega))).parseOK (progress_trans_le (scan_progress T s') hle)

theorem loop_after_scan (T : Tables) {α} {F : Nat} {r : TokKind} {s s' : Sc} (hreq : ReqLoop (F + 1) r s) (hr : r ≠ .eof)
    (hle : rem s' ≤ rem s) {loop : TokKind → Sc → PR α} (hloop : ∀ r1 s1, ReqLoop F r1 s1 → LoopOK r1 s1 (loop r1 s1)) :
    LoopOK r s (loop (scan T s').1 (scan T s').2) :=
  (hloop _ _ (reqLoop_of_scan T (by have := hreq.reqParse hr; omega))).mono (Nat.le_trans (scan_le T s') hle) hr

@[elab_as_elim]
theorem loop_after_call {β} {F : Nat} {r : TokKind} {s : Sc} {P : PR β → Prop} {nested : PR β}
    (hreq : ReqLoop (F + 1) r s) (hr : r ≠ .eof) (h0 : r ≠ .rune 0) (hn : ReqParse F s → ParseOK s nested)
    (ok : ∀ b r1 s1, ReqLoop F r1 s1 → rem s1 ≤ rem s → P (.ok b r1 s1)) (err : P .err) : P nested := by
  have hs := hreq.full_bound hr h0
  exact (hn (by omega)).elim (fun b r1 s1 hle hz => ok b r1 s1 (reqLoop_after_nested (by omega) hle hz) hle) err

theorem step_parsePath (T : Tables) (F : Nat) (ih : AllGood T F) :
    ∀ isF mE r s, ReqParse (F + 1) s → ParseOK s (parsePath T (F + 1) isF mE r s) := by
  intro isF mE r s hreq
  unfold parsePath
  simp only []
  split
  · split
    · trivial
    · exact parse_then_loop T hreq (Nat.le_refl _) (ih.pathL true isF mE [] _)
  · split
    · exact parse_then_loop T hreq (Nat.le_refl _) (ih.pathL false isF mE [] _)
    · trivial

theorem step_pathLoop (T : Tables) (F : Nat) (ih : AllGood T F) :
    ∀ root isF mE ops us r s, ReqLoop (F + 1) r s → LoopOK r s (pathLoop T (F + 1) root isF mE ops us r s) := by
  intro root isF mE ops us r s hreq
  have hloop := ih.pathL root isF mE
  unfold pathLoop
  simp only []
  split
  · exact ⟨Nat.le_refl _, fun _ => rfl⟩
  · split
    · exact loop_after_scan T hreq nofun (Nat.le_refl _) (hloop ops _)
    · split
      · -- a closing token: `done`, whatever `mustEnd` and `ops`
        (repeat' split) <;> exact ⟨Nat.le_refl _, nofun⟩
      · split
        · exact loop_after_call hreq nofun (by rintro ⟨⟩; contradiction) (ih.logic true _ s)
            (fun _ _ _ h hle => (hloop _ _ _ _ h).mono hle nofun) trivial
        · trivial
  · split
    · exact loop_after_call hreq nofun nofun (ih.func s)
        (fun _ _ _ h hle => (hloop _ _ _ _ h).mono hle nofun) trivial
    · exact loop_after_scan T hreq nofun (Nat.le_refl _) (hloop _ _)
  · trivial

theorem step_parseLogic (T : Tables) (F : Nat) (ih : AllGood T F) :
    ∀ isF r s, ReqParse (F + 1) s → ParseOK s (parseLogic T (F + 1) isF r s) := by
  intro isF r s hreq
  have hle := scan_le T s
  unfold parseLogic
  simp only []
  split
  · split
    · split
      · -- AND / OR: one more scan
        exact parse_then_loop T hreq hle (ih.logicL false isF _ [] _)
      · split
        · exact parse_then_loop T hreq hle (ih.logicL true isF _ [] _)
        · -- no keyword: enter the loop with the token just scanned
          exact parse_then_loop T hreq (Nat.le_refl _) (ih.logicL false isF _ [] _)
    · trivial
  · trivial

theorem step_logicLoop (T : Tables) (F : Nat) (ih : AllGood T F) :
    ∀ inv isF ty ops us r s, ReqLoop (F + 1) r s → LoopOK r s (logicLoop T (F + 1) inv isF ty ops us r s) := by
  intro inv isF ty ops us r s hreq
  have hloop := ih.logicL inv isF ty
  unfold logicLoop
  simp only []
  split
  · exact ⟨Nat.le_refl _, fun _ => rfl⟩
  · split
    · exact loop_after_scan T hreq nofun (Nat.le_refl _) (hloop ops _)
    · split
      · exact loop_after_call hreq nofun (by rintro ⟨⟩; contradiction) (ih.path isF true _ s)
          (fun _ _ _ h hle => (hloop _ _ _ _ h).mono hle nofun) trivial
      · split
        · exact loop_after_call hreq nofun (by rintro ⟨⟩; contradiction) (ih.logic false _ s)
            (fun _ _ _ h hle => (hloop _ _ _ _ h).mono hle nofun) trivial
        · split
          · exact ⟨scan_le T s, nofun⟩
          · trivial
  · trivial

theorem step_parseFunc (T : Tables) (F : Nat) (ih : AllGood T F) :
    ∀ s, ReqParse (F + 1) s → ParseOK s (parseFunc T (F + 1) s) := by
  intro s hreq
  unfold parseFunc
  simp only []
  split
  · trivial
  · exact parse_then_loop T hreq (scan_le T s) (ih.funcL _ _ [] _)

theorem dealWithNumbers_le (T : Tables) (s : Sc) : rem (dealWithNumbers T s).1 ≤ rem s := by
  unfold dealWithNumbers
  simp only []
  have h1 := scan_le T s
  split
  · split
    · exact Nat.le_trans (scan_le T _) h1
    · exact h1
  · exact Nat.le_refl _

theorem step_funcLoop (T : Tables) (F : Nat) (ih : AllGood T F) :
    ∀ inv name ps us r s, ReqLoop (F + 1) r s → LoopOK r s (funcLoop T (F + 1) inv name ps us r s) := by
  intro inv name ps us r s hreq
  have hloop := ih.funcL inv name
  -- `next` of `funcLoop`
  have hnext (hr : r ≠ .eof) (ps' : List Param) (us' : Bytes) :=
    loop_after_scan T hreq hr (Nat.le_refl _) (hloop ps' us')
  unfold funcLoop
  simp only []
  split
  · exact ⟨Nat.le_refl _, fun _ => rfl⟩
  · split
    · exact hnext nofun _ _
    · split
      · exact ⟨scan_le T s, nofun⟩
      · split
        · exact loop_after_call hreq nofun (by rintro ⟨⟩; contradiction) (ih.path false false _ s)
            (fun _ _ _ h hle => (hloop _ _ _ _ h).mono hle nofun) trivial
        · split
          · exact loop_after_call hreq nofun (by rintro ⟨⟩; contradiction) (ih.logic false _ s)
              (fun _ _ _ h hle => (hloop _ _ _ _ h).mono hle nofun) trivial
          · exact hnext nofun _ _
  · exact hnext nofun _ _
  · exact hnext nofun _ _
  · exact hnext nofun _ _
  · split
    · exact hnext nofun _ _
    · split
      · exact hnext nofun _ _
      · split
        · trivial
        · trivial
        · trivial
        · trivial
        · exact loop_after_scan T hreq nofun (dealWithNumbers_le T s) (hloop _ _)

theorem allGood (T : Tables) (F : Nat) : AllGood T F := by
  induction F with
  | zero =>
    refine ⟨?_, ?_, ?_, ?_, ?_, ?_⟩
    · intro _ _ _ s h; omega
    · intro _ _ _ _ _ r s h; have := h.one_le; omega
    · intro _ _ s h; omega
    · intro _ _ _ _ _ r s h; have := h.one_le; omega
    · intro s h; omega
    · intro _ _ _ _ r s h; have := h.one_le; omega
  | succ n ih =>
    exact ⟨step_parsePath T n ih, step_pathLoop T n ih, step_parseLogic T n ih, step_logicLoop T n ih,
      step_parseFunc T n ih, step_funcLoop T n ih⟩

theorem rem_le_length (s : Sc) : rem s ≤ s.rest.length + 1 := by
  unfold rem; split <;> omega

def ParseResult.isFuel : ParseResult → Bool | .fuel => true | _ => false

def ParseResult.Returned : ParseResult → Prop
  | .op _ => True
  | .err => True
  | _ => False

theorem topLoop_some (T : Tables) (F : Nat) (t : TopOp) (r : TokKind) (s : Sc) :
    (topLoop T (F + 1) (some t) r s).Returned := by
  unfold topLoop
  simp only [Option.isSome_some, if_true]
  -- with an operation in hand no branch calls a parser: each returns it or an error
  (repeat' split) <;> trivial

/-- two units of fuel: one to read an operation, one to return after it (`topLoop_some` does not recurse) -/
theorem topLoop_none (T : Tables) (F : Nat) (r : TokKind) (s : Sc) : (topLoop T (F + 2) none r s).Returned := by
  -- the fuel `topLoop` hands the parsers; since `rem s ≤ s.rest.length + 1`, any constant ≥ 4 would do for its 16
  have hreq : ReqParse (2 * s.rest.length + 16) s := by have := rem_le_length s; omega
  unfold topLoop
  simp only [Option.isSome_none, Bool.false_eq_true, if_false]
  split
  · trivial
  · split
    · trivial
    · split
      · exact ((allGood T _).logic false _ s hreq).elim (fun _ _ _ _ _ => topLoop_some T ..) trivial
      · split
        · exact ((allGood T _).path false false _ s hreq).elim (fun _ _ _ _ _ => topLoop_some T ..) trivial
        · trivial
  · trivial

/-- `parse` starts `topLoop` with `src.length + 4`; any fuel ≥ 2 would do -/
theorem parse_returns (T : Tables) (src : Bytes) : (parse T src).1.Returned := topLoop_none T _ _ _

/-- C08: the fuel `parse` starts with is never used up, so the Go parser, whose recursion the fuel mirrors, terminates on
    every input -/
theorem parse_fuel_sufficient (T : Tables) (src : Bytes) : (parse T src).1.isFuel = false := by
  have h := parse_returns T src
  generalize (parse T src).1 = res at h
  cases res with
  | op | err | neither | panic => rfl
  | fuel => exact h.elim

def ParseResult.isPanic : ParseResult → Bool | .panic => true | _ => false

/-- C08: the parser model returns an operation or an error. `.neither` is a nil operation with a nil error (the harness's
    class NEITHER): no branch of `Mp/Parse.lean` produces it, so the model excludes it by construction; for the Go parser
    the correspondence runs of C08 say it. -/
theorem parse_op_or_err (T : Tables) (src : Bytes) : (∃ t, (parse T src).1 = .op t) ∨ (parse T src).1 = .err := by
  have h := parse_returns T src
  generalize (parse T src).1 = res at h
  cases res with
  | op t => exact .inl ⟨t, rfl⟩
  | err => exact .inr rfl
  | neither | panic | fuel => exact h.elim

/-- in the model only: no branch of `Mp/Parse.lean` produces `.panic`, a nested one is handed on. That the Go parser has no
    panicking step (index, nil, type assertion) rests on the correspondence runs of C08. -/
theorem parse_never_panics (T : Tables) (src : Bytes) : (parse T src).1.isPanic = false := by
  rcases parse_op_or_err T src with ⟨t, h⟩ | h <;> rw [h] <;> rfl

/-! Nothing above uses what follows. `isRune_ne_zero` is what the steps settle by `rintro ⟨⟩; contradiction`. `PostLoop` /
    `PostParse` say of an `.ok` what `LoopOK` (less its clause on `.eof`) / `ParseOK` say, but exclude only `.fuel`, so a
    nested `.panic` passes them; `loop_after_nested` is their `loop_after_call`. -/

theorem isRune_ne_zero {c : Nat} {ch : Char} (h : (TokKind.rune c == TokKind.rune ch.toNat) = true) (hc : ch.toNat ≠ 0) : c ≠ 0 := by
  have : c = ch.toNat := by simpa using h
  omega

def isOkOrErr {α} : PR α → Prop
  | .fuel => False
  | _ => True

def PostLoop {α} (s : Sc) (res : PR α) : Prop :=
  isOkOrErr res ∧ ∀ a r1 s1, res = .ok a r1 s1 → rem s1 ≤ rem s

def PostParse {α} (s : Sc) (res : PR α) : Prop :=
  isOkOrErr res ∧ ∀ a r1 s1, res = .ok a r1 s1 → rem s1 ≤ rem s ∧ (rem s1 = rem s → r1 = .rune 0)

theorem loop_after_nested {α β} (F : Nat) (s : Sc) (hb : 2 * rem s + 3 ≤ F + 1)
    (nested : PR β) (hn : PostParse s nested)
    (loop : β → TokKind → Sc → PR α) (hloop : ∀ b r s', ReqLoop F r s' → PostLoop s' (loop b r s')) :
    PostLoop s (match nested with
      | .ok b r1 s1 => loop b r1 s1
      | .err => .err | .panic => .panic | .fuel => .fuel) := by
  cases nested with
  | ok b r1 s1 =>
    have := hn.2 b r1 s1 rfl
    have hl := hloop b r1 s1 (reqLoop_after_nested hb this.1 this.2)
    exact ⟨hl.1, fun a r2 s2 he => Nat.le_trans (hl.2 a r2 s2 he) this.1⟩
  | err | panic => exact ⟨trivial, nofun⟩
  | fuel => exact False.elim hn.1

#print axioms parse_fuel_sufficient
#print axioms parse_never_panics
#print axioms parse_op_or_err
end Mp
