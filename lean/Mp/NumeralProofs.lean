import Mp.DecOps
/-! A numeral is a string that `decimal.NewFromString` (model: `Dec.ofString`) accepts: the library reads it as a number wherever a
    function receives it, and the string properties (C01, C05, C18, C19) set "strings that are not numerals" aside. An accepted
    string is not empty and made of digits, signs, a dot and an exponent mark only. Core-only. -/
namespace Mp.Dec

/-- digit, `+`, `-`, `.`, `E`, `e` -/
def NumByte (b : UInt8) : Prop := (48 ≤ b.toNat ∧ b.toNat ≤ 57) ∨ b = 43 ∨ b = 45 ∨ b = 46 ∨ b = 69 ∨ b = 101

theorem parseIntDigits_alphabet {t : Bytes} {n : Int} (h : parseIntDigits t = some n) : t ≠ [] ∧ ∀ b ∈ t, NumByte b := by
  revert h
  fun_cases parseIntDigits t
  · nofun
  · next neg body heq hc _ =>
    rintro -
    simp only [Bool.or_eq_true, Bool.not_eq_true', not_or, Bool.not_eq_false, List.isEmpty_iff, List.all_eq_true,
      Bool.and_eq_true, decide_eq_true_eq] at hc
    have hd : ∀ b ∈ body, NumByte b := fun b hb => .inl (hc.2 b hb)
    split at heq <;> cases heq
    · exact ⟨List.cons_ne_nil _ _, List.forall_mem_cons.mpr ⟨.inr (.inl rfl), hd⟩⟩
    · exact ⟨List.cons_ne_nil _ _, List.forall_mem_cons.mpr ⟨.inr (.inr (.inl rfl)), hd⟩⟩
    · exact ⟨hc.1, hd⟩

theorem indexAny_eq_findIdx? (s : Bytes) (p : UInt8 → Bool) : indexAny s p = s.findIdx? p := by
  suffices h : ∀ l k, indexAny.go p l k = List.findIdx?.go p l k from h s 0
  intro l
  induction l with
  | nil => intro k; rfl
  | cons x t ih => intro k; simp only [indexAny.go, List.findIdx?.go, ih]

/-- a list with the byte `indexAny` found put back -/
theorem indexAny_forall {l : Bytes} {p : UInt8 → Bool} {i : Nat} {Q : UInt8 → Prop} (h : indexAny l p = some i)
    (hp : ∀ c, p c = true → Q c) (hr : ∀ b ∈ l.take i ++ l.drop (i + 1), Q b) : l ≠ [] ∧ ∀ b ∈ l, Q b := by
  rw [indexAny_eq_findIdx?] at h
  induction l generalizing i with
  | nil => cases h
  | cons x t ih =>
    refine ⟨List.cons_ne_nil _ _, List.forall_mem_cons.mpr ?_⟩
    rw [List.findIdx?_cons] at h
    split at h
    · cases h
      exact ⟨hp x ‹_›, hr⟩
    · obtain ⟨j, hj, rfl⟩ := Option.map_eq_some_iff.mp h
      exact ⟨hr x List.mem_cons_self, (ih hj fun b hb => hr b (List.mem_cons_of_mem _ hb)).2⟩

theorem ofString_alphabet (s : Bytes) (d : Dec) (h : ofString s = some d) : s ≠ [] ∧ ∀ b ∈ s, NumByte b := by
  revert h
  fun_cases ofString s
  -- `case5` is the one return of `ofString` that is `some`. Its binders follow the text of `ofString` (`hexp`: the split at the
  -- exponent mark, `hdot`: the dot taken out, `hint`: the digits read); a `let`, `match` or `if` added there moves them.
  case case5 value _ _ _ intString _ hdot _ hint _ hexp =>
    rintro -
    have ht := parseIntDigits_alphabet hint
    -- the mantissa `value` is `intString` with at most one dot put back
    have hv : value ≠ [] ∧ ∀ b ∈ value, NumByte b := by
      split at hdot
      · cases hdot
        exact ht
      · next hidx =>
        cases hdot
        exact indexAny_forall hidx (fun c hc => .inr (.inr (.inr (.inl (by simpa using hc))))) ht.2
    -- `s` is `value`, or `value` with an exponent mark and the exponent's digits put back
    split at hexp
    · next hidx =>
      split at hexp
      · next he =>
        split at hexp <;> cases hexp
        exact indexAny_forall hidx (fun c hc => .inr (.inr (.inr (.inr (by simpa using hc)))))
          (List.forall_mem_append.mpr ⟨hv.2, (parseIntDigits_alphabet he).2⟩)
      · cases hexp
    · cases hexp
      exact hv
  -- the other branches return `none`
  all_goals nofun

/-- a blank, a tab, a line break, a letter other than e / E, an underscore, a byte outside ASCII: not a numeral, wherever it stands -/
theorem not_numeral_of_foreign_byte (s : Bytes) (b : UInt8) (hb : b ∈ s) (hf : ¬ NumByte b) : ofString s = none := by
  cases h : ofString s with
  | none => rfl
  | some d => exact absurd ((ofString_alphabet s d h).2 b hb) hf

theorem empty_not_numeral : ofString [] = none := by
  cases h : ofString [] with
  | none => rfl
  | some d => exact absurd rfl (ofString_alphabet [] d h).1

/-- the padded zeros of the C19 block are not numerals -/
example : ofString [32, 48] = none := not_numeral_of_foreign_byte _ 32 (by simp) (by simp [NumByte])
example : ofString [48, 9] = none := not_numeral_of_foreign_byte _ 9 (by simp) (by simp [NumByte])
/-- non-vacuity: `-12.50e3` is a numeral -/
example : ofString [45, 49, 50, 46, 53, 48, 101, 51] = some ⟨-1250, 1⟩ := by decide

#print axioms ofString_alphabet
#print axioms not_numeral_of_foreign_byte
#print axioms empty_not_numeral
end Mp.Dec
