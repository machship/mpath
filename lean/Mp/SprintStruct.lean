import Mp.Print
/-! C09 for Sprint. As `opFunction.Sprint` does, the model prints an argument that is a path or a group from its structure and not
    from `UserString()` (from which `Equal(1 2)` comes out as `Equal(12)`). The "Sprint is a fixed point" clause of the property
    follows from its "same structure" clause. Core-only. -/
namespace Mp

mutual
/-- the operation with every recorded user text erased -/
def erPath : PathOp → PathOp
  | .mk i r f m ops _ => .mk i r f m (erParts ops) []
def erParts : List PathPart → List PathPart
  | [] => []
  | p :: ps => erPart p :: erParts ps
def erPart : PathPart → PathPart
  | .ident n p _ => .ident n p []
  | .filter lo _ => .filter (erLogic lo) []
  | .func i n ps _ => .func i n (erParams ps) []
def erParams : List Param → List Param
  | [] => []
  | p :: ps => erParam p :: erParams ps
def erParam : Param → Param
  | .num d => .num d
  | .str s => .str s
  | .bool b => .bool b
  | .path p => .path (erPath p)
  | .logic l => .logic (erLogic l)
def erLogic : LogicOp → LogicOp
  | .mk i f ty ops _ => .mk i f ty (erLParts ops) []
def erLParts : List LogicPart → List LogicPart
  | [] => []
  | p :: ps => erLPart p :: erLParts ps
def erLPart : LogicPart → LogicPart
  | .path p => .path (erPath p)
  | .logic l => .logic (erLogic l)
end

mutual
theorem sprint_erPath (d : Nat) (p : PathOp) : sprintPath d (erPath p) = sprintPath d p := by
  cases p with
  | mk i r f m ops us => unfold erPath sprintPath; rw [sprint_erParts d ops]
termination_by structural p
theorem sprint_erParts (d : Nat) (ps : List PathPart) : sprintParts d (erParts ps) = sprintParts d ps := by
  cases ps with
  | nil => rfl
  | cons p ps => unfold erParts sprintParts; rw [sprint_erPart d p, sprint_erParts d ps]
termination_by structural ps
theorem sprint_erPart (d : Nat) (p : PathPart) : sprintPart d (erPart p) = sprintPart d p := by
  cases p with
  | ident n pr us => rfl
  | filter lo us => unfold erPart sprintPart; exact sprint_erLogic d lo
  | func i n ps us => unfold erPart sprintPart; rw [sprint_erParams ps]
termination_by structural p
theorem sprint_erParams (ps : List Param) : sprintParams (erParams ps) = sprintParams ps := by
  match ps with
  | [] => rfl
  | [p] => simp only [erParams, sprintParams]; exact sprint_erParam p
  | p :: q :: qs =>
    have ih := sprint_erParams (q :: qs)
    simp only [erParams, sprintParams] at ih ⊢
    rw [sprint_erParam p, ih]
termination_by structural ps
theorem sprint_erParam (p : Param) : sprintParam (erParam p) = sprintParam p := by
  cases p with
  | num d => rfl
  | str s => rfl
  | bool b => rfl
  | path q => unfold erParam sprintParam; exact sprint_erPath 0 q
  | logic l => unfold erParam sprintParam; exact sprint_erLogic 0 l
termination_by structural p
theorem sprint_erLogic (d : Nat) (l : LogicOp) : sprintLogic d (erLogic l) = sprintLogic d l := by
  cases l with
  | mk i f ty ops us => unfold erLogic sprintLogic; rw [sprint_erLParts d ops]
termination_by structural l
theorem sprint_erLParts (d : Nat) (ps : List LogicPart) : sprintLogicParts d (erLParts ps) = sprintLogicParts d ps := by
  match ps with
  | [] => rfl
  | [p] => simp only [erLParts, sprintLogicParts]; rw [sprint_erLPart (d + 1) p]
  | p :: q :: qs =>
    have ih := sprint_erLParts d (q :: qs)
    simp only [erLParts, sprintLogicParts] at ih ⊢
    rw [sprint_erLPart (d + 1) p, ih]
termination_by structural ps
theorem sprint_erLPart (d : Nat) (p : LogicPart) : sprintLogicPart d (erLPart p) = sprintLogicPart d p := by
  cases p with
  | path q => unfold erLPart sprintLogicPart; exact sprint_erPath d q
  | logic l => unfold erLPart sprintLogicPart; exact sprint_erLogic d l
termination_by structural p
end

/-- C09: operations of the same structure print identically, whatever was typed to obtain them -/
theorem sprint_of_same_structure (d : Nat) (p q : PathOp) (h : erPath p = erPath q) : sprintPath d p = sprintPath d q := by
  rw [← sprint_erPath d p, ← sprint_erPath d q, h]

theorem sprintLogic_of_same_structure (d : Nat) (l m : LogicOp) (h : erLogic l = erLogic m) : sprintLogic d l = sprintLogic d m := by
  rw [← sprint_erLogic d l, ← sprint_erLogic d m, h]

#print axioms sprint_erPath
#print axioms sprint_of_same_structure
#print axioms sprintLogic_of_same_structure
end Mp
