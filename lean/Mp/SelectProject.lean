import Mp.PathRefines
import Mp.SelectProofs
/-! C17 — "an aggregate over a key stepped across objects equals the aggregate over those same values given directly":
    on a non-empty list of objects that all hold the key (with a value that is not itself a list), stepping the key
    across the list (`$.xs.k`) and selecting it element by element (`$.xs.Select("$.k")`) produce the same list value,
    so every function applied afterwards receives the same input. -/
namespace Mp
namespace L2

def HasScalarKey (name : Bytes) (x : Doc) : Prop :=
  ∃ ks vs v, x = .obj ks vs ∧ specGet name ks vs = some v ∧ (∀ ys, v ≠ .arr ys)

theorem isSliceKind_render_scalar (v : Doc) (h : ∀ ys, v ≠ .arr ys) : isSliceKind (render v) = none := by
  cases v with
  | arr ys => exact absurd rfl (h ys)
  | _ => rfl

theorem identDo_hasKey (name : Bytes) (x : Doc) (hg : Good x) (hk : HasScalarKey name x) :
    ∃ v, projGet name x = some v ∧ identDo name (render x) = .ok (render v) ∧ isSliceKind (render v) = none := by
  obtain ⟨ks, vs, v, rfl, hs, hv⟩ := hk
  refine ⟨v, hs, ?_, isSliceKind_render_scalar v hv⟩
  exact (mapCarrier.step name _ hg).trans (by rw [stepSpec, hs]; rfl)

theorem selectList_key (name : Bytes) (xs : List Doc) (acc : List GoVal)
    (hg : ∀ x ∈ xs, Good x) (hk : ∀ x ∈ xs, HasScalarKey name x) :
    selectList (identDo name) (renderList xs) acc =
      .ok (.slice true (acc ++ renderList (xs.filterMap (projGet name))).isEmpty (acc ++ renderList (xs.filterMap (projGet name)))) := by
  induction xs generalizing acc with
  | nil => simp [renderList, selectList]
  | cons x xs ih =>
    rw [List.forall_mem_cons] at hg hk
    obtain ⟨v, hp, hi, hsk⟩ := identDo_hasKey name x hg.1 hk.1
    simp only [renderList, List.filterMap_cons, hp]
    rw [selectList_cons_ok hi, selContrib, hsk, ih (acc ++ [render v]) hg.2 hk.2]
    simp [List.append_assoc]

theorem projection_eq_select (name : Bytes) (x : Doc) (xs : List Doc)
    (hg : ∀ y ∈ x :: xs, Good y) (hk : ∀ y ∈ x :: xs, HasScalarKey name y) :
    identDo name (render (.arr (x :: xs))) = selectOn (render (.arr (x :: xs))) (identDo name) := by
  have hsel : selectOn (render (.arr (x :: xs))) (identDo name) = selectList (identDo name) (renderList (x :: xs)) [] :=
    selectOn_slice true false _ _
  rw [hsel, selectList_key name (x :: xs) [] hg hk, identDo_arr name (x :: xs) hg]
  obtain ⟨ks, vs, v, rfl, hs, _⟩ := hk x List.mem_cons_self
  simp [headOk, isObj, projGet, hs, render, renderList]

/-- `F` stands for whatever is applied afterwards (Sum, Count, First, …): `projection_eq_select` under `F`, nothing more -/
theorem aggregate_projection_eq_select (name : Bytes) (x : Doc) (xs : List Doc) (F : Out → Out)
    (hg : ∀ y ∈ x :: xs, Good y) (hk : ∀ y ∈ x :: xs, HasScalarKey name y) :
    F (identDo name (render (.arr (x :: xs)))) = F (selectOn (render (.arr (x :: xs))) (identDo name)) := by
  rw [projection_eq_select name x xs hg hk]

/-- non-vacuity: {k:1} -/
example : HasScalarKey [107] (.obj [[107]] [.num ⟨1, 0⟩]) := ⟨[[107]], [.num ⟨1, 0⟩], .num ⟨1, 0⟩, rfl, by simp [specGet, equalFold_refl], by intro ys h; cases h⟩

#print axioms projection_eq_select
#print axioms aggregate_projection_eq_select
#print axioms selectList_key
end L2
end Mp
