import Mp.Lex
/-! C08: progress of the lexer. Core-only. -/
namespace Mp

/-- the measure of the progress lemmas: a look-ahead other than EOF counts one whatever its width, and one also while nothing
    has been read (`ch = -2`) -/
def rem (s : Sc) : Nat := s.rest.length + (if s.ch == -1 then 0 else 1)

theorem decodeRune_width_bounds (p : Bytes) (h : p ≠ []) : 1 ≤ (decodeRune p).2.1 ∧ (decodeRune p).2.1 ≤ p.length := by
  -- every branch of `decodeRune` returns width 1, or a width k after it has matched k bytes of `p`
  fun_cases decodeRune p <;> simp at h ⊢

theorem decodeRune_ascii (b : UInt8) (t : Bytes) (h : b.toNat < 128) : decodeRune (b :: t) = (b.toNat, 1, false) := by
  unfold decodeRune
  simp [h]

theorem rem_next_le_rest (s : Sc) : rem s.next ≤ s.rest.length := by
  unfold Sc.next rem
  cases s.rest with
  | nil => simp
  | cons b t =>
    have hw := (decodeRune_width_bounds (b :: t) (List.cons_ne_nil b t)).1
    generalize decodeRune (b :: t) = d at hw
    obtain ⟨r, w, bad⟩ := d
    simp only [List.length_drop, List.length_cons] at hw ⊢
    split <;> omega

theorem rem_next_le (s : Sc) : rem s.next ≤ rem s := Nat.le_trans (rem_next_le_rest s) (Nat.le_add_right _ _)

theorem rem_next_lt (s : Sc) (h : s.ch ≠ -1) : rem s.next < rem s := by
  have := rem_next_le_rest s
  simp only [rem, beq_iff_eq, h, if_false] at this ⊢
  omega

theorem err_rem (s : Sc) : rem s.err = rem s := rfl

theorem skipWs_le (fuel : Nat) (s : Sc) : rem (skipWs fuel s) ≤ rem s := by
  fun_induction skipWs fuel s with
  | case2 _ s _ ih => exact Nat.le_trans ih (rem_next_le s)
  | _ => exact Nat.le_refl _

theorem scanIdent_le (T : Tables) (fuel : Nat) (s : Sc) : rem (scanIdent T fuel s) ≤ rem s := by
  fun_induction scanIdent T fuel s with
  | case2 _ s _ ih => exact Nat.le_trans ih (rem_next_le s)
  | _ => exact Nat.le_refl _

theorem scanDigits_le (base n : Nat) (s : Sc) : rem (scanDigits s base n) ≤ rem s := by
  fun_induction scanDigits s base n with
  | case2 s _ _ ih => exact Nat.le_trans ih (rem_next_le s)
  | _ => exact Nat.le_refl _

theorem scanEscape_le (s : Sc) (q : Int) : rem (scanEscape s q) ≤ rem s := by
  have h1 := rem_next_le s
  have h2 := Nat.le_trans (rem_next_le s.next) h1
  fun_cases scanEscape s q
  · exact h2
  · exact Nat.le_trans (scanDigits_le _ _ _) h1
  · exact Nat.le_trans (scanDigits_le _ _ _) h2
  · exact Nat.le_trans (scanDigits_le _ _ _) h2
  · exact Nat.le_trans (scanDigits_le _ _ _) h2
  · exact h1

theorem scanStringLoop_le (q : Int) (fuel : Nat) (s : Sc) (n : Nat) : rem (scanStringLoop q fuel s n).1 ≤ rem s := by
  fun_induction scanStringLoop q fuel s n with
  | case4 _ s _ _ _ _ ih => exact Nat.le_trans ih (scanEscape_le s q)
  | case5 _ s _ _ _ _ ih => exact Nat.le_trans ih (rem_next_le s)
  | _ => exact Nat.le_refl _

theorem scanString_le_next (s : Sc) (q : Int) : rem (scanString s q).1 ≤ rem s.next :=
  scanStringLoop_le q _ _ _

theorem scanString_le (s : Sc) (q : Int) : rem (scanString s q).1 ≤ rem s :=
  Nat.le_trans (scanString_le_next s q) (rem_next_le s)

theorem scanRaw_le (fuel : Nat) (s : Sc) : rem (scanRaw fuel s) ≤ rem s := by
  fun_induction scanRaw fuel s with
  | case4 _ s _ _ ih => exact Nat.le_trans ih (rem_next_le s)
  | _ => exact Nat.le_refl _

theorem lineComment_le (fuel : Nat) (s : Sc) : rem (lineComment fuel s) ≤ rem s := by
  fun_induction lineComment fuel s with
  | case2 _ s _ ih => exact Nat.le_trans ih (rem_next_le s)
  | _ => exact Nat.le_refl _

theorem blockComment_le (fuel : Nat) (s : Sc) : rem (blockComment fuel s) ≤ rem s := by
  fun_induction blockComment fuel s with
  | case3 _ s => exact Nat.le_trans (rem_next_le _) (rem_next_le s)
  | case4 _ s _ _ _ _ ih => exact Nat.le_trans ih (rem_next_le s)
  | _ => exact Nat.le_refl _

theorem peekInit_le (s : Sc) : rem s.peekInit ≤ rem s := by
  have h1 : rem ({ s with chRaw := [] } : Sc).next ≤ rem s := rem_next_le _
  fun_cases Sc.peekInit s
  · exact Nat.le_trans (rem_next_le _) h1
  · exact h1
  · exact Nat.le_refl _

theorem rem_tok (s : Sc) (t : Bytes) : rem ({ s with tok := t } : Sc) = rem s := rfl

theorem sxPrep_le (s0 : Sc) : rem (sxPrep s0) ≤ rem s0 :=
  Nat.le_trans (skipWs_le _ _) (peekInit_le s0)

def Progress (s : Sc) (r : TokKind × Sc) : Prop := rem r.2 ≤ rem s ∧ (r.1 ≠ .eof → rem r.2 < rem s)

theorem progress_eof (s : Sc) : Progress s (.eof, s) := ⟨Nat.le_refl _, fun h => absurd rfl h⟩

theorem progress_trans_le {s s1 : Sc} {r : TokKind × Sc} (h : Progress s1 r) (hl : rem s1 ≤ rem s) : Progress s r :=
  ⟨Nat.le_trans h.1 hl, fun hk => Nat.lt_of_lt_of_le (h.2 hk) hl⟩

theorem progress_of_next {s : Sc} {r : TokKind × Sc} (h : s.ch ≠ -1) (hl : rem r.2 ≤ rem s.next) : Progress s r :=
  have := Nat.lt_of_le_of_lt hl (rem_next_lt s h)
  ⟨Nat.le_of_lt this, fun _ => this⟩

theorem sxBody_progress (T : Tables) (again : Sc → TokKind × Sc) (hag : ∀ x, rem (again x).2 ≤ rem x) (s : Sc) :
    Progress s (sxBody T again s) := by
  by_cases heof : s.ch = -1
  · have : sxBody T again s = (.eof, s) := by simp [sxBody, isIdentRune, heof]
    rw [this]
    exact progress_eof s
  · -- whatever the token, the look-ahead has been consumed
    refine progress_of_next heof ?_
    fun_cases sxBody T again s
    · -- identifier
      exact scanIdent_le T _ _
    · -- digit
      exact Nat.le_refl _
    · -- end of input
      exact absurd (beq_iff_eq.mp ‹_›) heof
    · -- string
      exact Nat.le_trans (rem_next_le _) (scanString_le_next s 34)
    · -- character
      refine Nat.le_trans (rem_next_le _) ?_
      split <;> exact scanString_le_next s 39
    · -- dot
      exact Nat.le_refl _
    · -- line comment
      exact Nat.le_trans (hag _) (Nat.le_trans (lineComment_le _ _) (rem_next_le _))
    · -- block comment
      exact Nat.le_trans (hag _) (Nat.le_trans (blockComment_le _ _) (rem_next_le _))
    · -- slash
      exact Nat.le_refl _
    · -- raw string
      exact Nat.le_trans (rem_next_le _) (scanRaw_le _ _)
    · -- any other rune
      exact Nat.le_refl _

theorem sxScan_progress (T : Tables) (fuel : Nat) (s : Sc) : Progress s (sxScan T fuel s) := by
  induction fuel generalizing s with
  | zero => exact progress_eof s
  | succ n ih =>
    unfold sxScan
    exact progress_trans_le (sxBody_progress T (sxScan T n) (fun x => (ih x).1) (sxPrep s)) (sxPrep_le s)

theorem mScan_progress (T : Tables) (fuel : Nat) (s : Sc) : Progress s (mScan T fuel s) := by
  fun_induction mScan T fuel s with
  | case1 s => exact progress_eof s
  | case2 _ s _ _ _ h => exact h ▸ sxScan_progress T _ s
  | case3 _ s _ _ _ h ih => exact progress_trans_le ih (h ▸ sxScan_progress T _ s).1
  | case4 _ s _ _ h => exact h ▸ sxScan_progress T _ s

/-- C08: mpath's `Scan` never gives input back, and every token other than EOF consumes at least one byte -/
theorem scan_progress (T : Tables) (s : Sc) : Progress s (scan T s) := mScan_progress T _ s

#print axioms scan_progress
end Mp
