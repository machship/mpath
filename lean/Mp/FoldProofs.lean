import Mp.Fold
import Mp.LexProofs
/-! C01 — what "without regard to letter case" means for ASCII keys, about the model's `strings.EqualFold` (`Mp.equalFoldU`,
    which the evaluator model applies to every key). Core-only. -/
namespace Mp

def CasePair (a b : Nat) : Prop := (65 ≤ a ∧ a ≤ 90 ∧ b = a + 32) ∨ (65 ≤ b ∧ b ≤ 90 ∧ a = b + 32)

theorem runeEqFold_ascii (a b : Nat) (ha : a < 128) (hb : b < 128) : runeEqFold a b = true ↔ (a = b ∨ CasePair a b) := by
  unfold runeEqFold CasePair
  by_cases hab : a = b
  · simp [hab]
  · -- below 0x80 the greater of the two must be the lower case of the smaller: linear arithmetic in either order
    by_cases hlt : a < b
    all_goals
      simp only [beq_iff_eq, hab, hlt, if_false, if_true, ha, hb, Bool.and_eq_true, decide_eq_true_eq, false_or]
      omega

theorem decodeRunes_ascii (p : Bytes) (hall : ∀ b ∈ p, b.toNat < 128) : decodeRunes p.length p = p.map (·.toNat) := by
  induction p with
  | nil => rfl
  | cons b t ih =>
    obtain ⟨hb, ht⟩ := List.forall_mem_cons.mp hall
    rw [List.length_cons]
    unfold decodeRunes
    simp only [decodeRune_ascii b t hb, Nat.max_self, List.drop_one, List.tail_cons, List.map_cons]
    rw [ih ht]

def AsciiFoldEq : Bytes → Bytes → Prop
  | [], [] => True
  | a :: as, b :: bs => (a.toNat = b.toNat ∨ CasePair a.toNat b.toNat) ∧ AsciiFoldEq as bs
  | _, _ => False

theorem allEqFold_ascii (p q : Bytes) (hp : ∀ b ∈ p, b.toNat < 128) (hq : ∀ b ∈ q, b.toNat < 128) :
    allEqFold (p.map (·.toNat)) (q.map (·.toNat)) = true ↔ AsciiFoldEq p q := by
  induction p generalizing q with
  | nil => cases q <;> simp [allEqFold, AsciiFoldEq]
  | cons a as ih =>
    cases q with
    | nil => simp [allEqFold, AsciiFoldEq]
    | cons b bs =>
      obtain ⟨ha, hp⟩ := List.forall_mem_cons.mp hp
      obtain ⟨hb, hq⟩ := List.forall_mem_cons.mp hq
      simp only [List.map_cons, allEqFold, AsciiFoldEq, Bool.and_eq_true]
      rw [runeEqFold_ascii _ _ ha hb, ih bs hp hq]

/-- C01, ASCII keys: the key comparison accepts two ASCII names iff they have the same length and, position by position, the
    bytes are equal or are the two cases of one letter. No other pair of bytes folds together, whatever bit they differ in. -/
theorem equalFold_ascii (p q : Bytes) (hp : ∀ b ∈ p, b.toNat < 128) (hq : ∀ b ∈ q, b.toNat < 128) :
    equalFoldU p q = true ↔ AsciiFoldEq p q := by
  unfold equalFoldU
  rw [decodeRunes_ascii p hp, decodeRunes_ascii q hq]
  exact allEqFold_ascii p q hp hq

/-- `^` / `~` and `-` / CR differ in the case bit only and are not letters: no match; `k` and `K` match -/
example : equalFoldU [0x5e] [0x7e] = false := by decide
example : equalFoldU [0x2d] [0x0d] = false := by decide
example : equalFoldU [0x6b] [0x4b] = true := by decide

#print axioms runeEqFold_ascii
#print axioms equalFold_ascii
end Mp
