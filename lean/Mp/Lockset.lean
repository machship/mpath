/-! C12, the lockset argument, on traces of acquire / release / read / write events of any length and any number of threads.
    A trace model of its own: `ConcSys.mutual_exclusion` proves the discipline assumed here of its transition system, but
    no theorem turns its runs into these traces. -/
namespace Lockset

inductive Act | acq (m : Nat) | rel (m : Nat) | rd (x : Nat) | wr (x : Nat)
deriving DecidableEq, Repr

structure Ev where
  tid : Nat
  act : Act
deriving DecidableEq, Repr

abbrev Locks := Nat → Option Nat

/-- `h`: who holds which mutex. `none`: the event acquires a mutex that is held or releases one its thread does not hold.
    A trace is well-formed from `h` when `run h` answers `some`. -/
def step (h : Locks) (e : Ev) : Option Locks :=
  match e.act with
  | .acq m => if h m = none then some (fun k => if k = m then some e.tid else h k) else none
  | .rel m => if h m = some e.tid then some (fun k => if k = m then none else h k) else none
  | _ => some h

def run : Locks → List Ev → Option Locks
  | h, [] => some h
  | h, e :: es => match step h e with
    | none => none
    | some h' => run h' es

theorem run_append {a b : List Ev} {h h' : Locks} :
    run h (a ++ b) = some h' ↔ ∃ hm, run h a = some hm ∧ run hm b = some h' := by
  induction a generalizing h with
  | nil => exact ⟨fun hr => ⟨h, rfl, hr⟩, fun ⟨_, e, hr⟩ => by cases e; exact hr⟩
  | cons e es ih =>
    simp only [List.cons_append, run]
    cases step h e with
    | none => exact ⟨nofun, nofun⟩
    | some h1 => exact ih

theorem step_owner (g : Nat) {h h' : Locks} {e : Ev} (hs : step h e = some h') :
    h' g = h g ∨ (e = ⟨e.tid, .acq g⟩ ∧ h g = none ∧ h' g = some e.tid) ∨
      (e = ⟨e.tid, .rel g⟩ ∧ h g = some e.tid ∧ h' g = none) := by
  obtain ⟨tid, act⟩ := e
  cases act with
  | acq m =>
    obtain ⟨hm, ⟨⟩⟩ := Option.ite_none_right_eq_some.mp hs
    by_cases hg : g = m
    · subst hg; exact .inr (.inl ⟨rfl, hm, if_pos rfl⟩)
    · exact .inl (if_neg hg)
  | rel m =>
    obtain ⟨hm, ⟨⟩⟩ := Option.ite_none_right_eq_some.mp hs
    by_cases hg : g = m
    · subst hg; exact .inr (.inr ⟨rfl, hm, if_pos rfl⟩)
    · exact .inl (if_neg hg)
  | rd x | wr x => cases hs; exact .inl rfl

theorem acquired {g t : Nat} {tr : List Ev} {h h' : Locks} (hr : run h tr = some h') (hg : h g ≠ some t)
    (hg' : h' g = some t) : ⟨t, .acq g⟩ ∈ tr := by
  fun_induction run h tr with
  | case1 h => cases hr; exact absurd hg' hg
  | case2 => cases hr
  | case3 h e es h1 hs ih =>
    by_cases hq : h1 g = some t
    · rcases step_owner g hs with same | ⟨he, -, mine'⟩ | ⟨-, -, free'⟩
      · exact absurd (same.symm.trans hq) hg
      · cases Option.some.inj (mine'.symm.trans hq)
        rw [he]
        exact List.mem_cons_self
      · cases free'.symm.trans hq
    · exact List.mem_cons_of_mem _ (ih hr hq)

theorem handover {g t1 t2 : Nat} {tr : List Ev} {h h' : Locks} (hr : run h tr = some h') (hg : h g = some t1)
    (hg' : h' g = some t2) (hne : t1 ≠ t2) : ∃ m1 m2, tr = m1 ++ ⟨t1, .rel g⟩ :: m2 ∧ ⟨t2, .acq g⟩ ∈ m2 := by
  fun_induction run h tr with
  | case1 h => cases hr; exact absurd (Option.some.inj (hg.symm.trans hg')) hne
  | case2 => cases hr
  | case3 h e es h1 hs ih =>
    rcases step_owner g hs with same | ⟨-, free, -⟩ | ⟨he, mine, free'⟩
    · obtain ⟨m1, m2, htr, hm⟩ := ih hr (same.trans hg)
      exact ⟨e :: m1, m2, by rw [htr, List.cons_append], hm⟩
    · cases free.symm.trans hg
    · cases Option.some.inj (mine.symm.trans hg)
      exact ⟨[], es, by rw [he, List.nil_append], acquired hr (by rw [free']; exact nofun) hg'⟩

def isAccess (x : Nat) : Act → Bool
  | .rd y => x == y
  | .wr y => x == y
  | _ => false

theorem step_access (h : Locks) (e : Ev) (x : Nat) (ha : isAccess x e.act = true) : step h e = some h := by
  obtain ⟨tid, act⟩ := e
  cases act <;> simp_all [isAccess, step]

/-- C12. A trace `pre ++ e₁ :: mid ++ e₂ :: post` that is well-formed from `h0`, where both `e₁` and `e₂`
    access `x` while holding `guard x` (the discipline, stated at those two points) and belong to different threads,
    has in `mid` a release of the guard by the first thread followed by an acquire by the second. -/
theorem lockset_orders (guard : Nat → Nat) (x : Nat) (h0 hend : Locks) (pre mid post : List Ev) (e1 e2 : Ev)
    (hwf : run h0 (pre ++ e1 :: (mid ++ e2 :: post)) = some hend)
    (a1 : isAccess x e1.act = true) (a2 : isAccess x e2.act = true) (hne : e1.tid ≠ e2.tid)
    (d1 : ∀ h1, run h0 pre = some h1 → h1 (guard x) = some e1.tid)
    (d2 : ∀ h2, run h0 (pre ++ e1 :: mid) = some h2 → h2 (guard x) = some e2.tid) :
    ∃ m1 m2, mid = m1 ++ ⟨e1.tid, .rel (guard x)⟩ :: m2 ∧ ⟨e2.tid, .acq (guard x)⟩ ∈ m2 := by
  rw [← List.cons_append, ← List.append_assoc] at hwf
  obtain ⟨h2, hmid, -⟩ := run_append.mp hwf
  obtain ⟨h1, hpre, hrest⟩ := run_append.mp hmid
  simp only [run, step_access h1 e1 x a1] at hrest
  exact handover hrest (d1 h1 hpre) (d2 h2 hmid) hne

#print axioms lockset_orders

end Lockset
