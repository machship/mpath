import Mp.RescaleProofs
/-! C17, C18: an index or a count is a number, whatever decimal represents it: `IsIndex d k` holds of k written with exponent 0,
    with trailing zeros (`2.000`) or with a positive exponent (`2e1`). Core-only. -/
namespace Mp

/-- all that `Fn.index` (Index) and `stringPart` (Left, Right, TrimLeft, TrimRight) read of their decimal argument -/
def IsIndex (d : Dec) (k : Nat) : Prop :=
  d.isInteger = true ∧ d.isNegative = false ∧ d.intPart.toNat = k ∧ ∀ n : Nat, Dec.cmp d (Dec.ofNat n) = compare k n

theorem _root_.Int.compare_natCast (a b : Nat) : compare (a : Int) (b : Int) = compare a b := by
  simp only [compare, compareOfLessAndEq, Int.ofNat_lt, Int.natCast_inj]

/-- the integer part (an int64) is read off the decimal rescaled to exponent 0 -/
theorem intPart_of_rescale {d : Dec} {k : Nat} (hk : k < 2 ^ 63) (h : d.rescale 0 = ⟨k, 0⟩) : d.intPart.toNat = k := by
  have hm : k % 2 ^ 64 = k := Nat.mod_eq_of_lt (by omega)
  have hlt : ¬ 2 ^ 63 ≤ k := by omega
  have hneg : ¬ (k : Int) < 0 := by omega
  simp [Dec.intPart, h, hm, hlt, hneg]

theorem isIndex_nat (k : Nat) (hk : k < 2 ^ 63) : IsIndex ⟨(k : Int), 0⟩ k :=
  ⟨rfl, by simp [Dec.isNegative], intPart_of_rescale hk rfl, Int.compare_natCast k⟩

theorem _root_.Int.compare_mul_right {a b c : Int} (hc : 0 < c) : compare (a * c) (b * c) = compare a b := by
  simp only [compare, compareOfLessAndEq, Int.mul_lt_mul_right hc, Int.mul_eq_mul_right_iff (Int.ne_of_gt hc)]

/-- k with s trailing zeros after the point, k·10^s × 10^(−s): what a division or a numeric string such as "2.0" leaves -/
theorem isIndex_scaled (k s : Nat) (hk : k < 2 ^ 63) : IsIndex ⟨((k * 10 ^ s : Nat) : Int), -(s : Int)⟩ k := by
  have hp : (10 : Int) ^ s ≠ 0 := Int.pow_ne_zero (by decide)
  refine ⟨?_, ?_, intPart_of_rescale hk ?_, fun n => ?_⟩
  · simp [Dec.isInteger, Int.mul_tmod_left]
  · simp only [Dec.isNegative, decide_eq_false_iff_not, Int.not_lt]
    exact Int.natCast_nonneg _
  · rw [Dec.rescale_of_ge (by simp)]
    simp [Int.mul_tdiv_cancel _ hp]
  · -- the length n is brought to the exponent −s: n·10^s against k·10^s
    rw [Dec.cmp_of_exp_le (by simp [Dec.ofNat]), Dec.rescale_of_le (by simp [Dec.ofNat])]
    simp only [Dec.ofNat, Int.sub_neg, Int.zero_add, Int.toNat_natCast]
    rw [Int.natCast_mul, Int.natCast_pow, Int.cast_ofNat_Int, Int.compare_mul_right (Int.pow_pos (by decide)), Int.compare_natCast]

/-- k = m·10^e written with a positive exponent (`2e1` is the index 20) -/
theorem isIndex_up (m e : Nat) (hk : m * 10 ^ e < 2 ^ 63) : IsIndex ⟨(m : Int), (e : Int)⟩ (m * 10 ^ e) := by
  have hr : (Dec.rescale ⟨(m : Int), (e : Int)⟩ 0) = ⟨((m * 10 ^ e : Nat) : Int), 0⟩ := by
    rw [Dec.rescale_of_le (by simp)]
    simp
  refine ⟨?_, ?_, intPart_of_rescale hk hr, fun n => ?_⟩
  · simp [Dec.isInteger]
  · simp [Dec.isNegative]
  · -- the decimal is brought to the exponent 0 of the length
    rw [Dec.cmp_of_exp_ge (by simp [Dec.ofNat])]
    exact hr ▸ Int.compare_natCast _ n

example : IsIndex ⟨2000, -3⟩ 2 := by simpa using isIndex_scaled 2 3 (by decide)

#print axioms isIndex_scaled
#print axioms isIndex_up
end Mp
