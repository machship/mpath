import Mp.BytesOrd
/-! C11 for AsJSON: the members of an object are written in the order of their keys, and that order is a strict total order
    (`keyLt_ord`). Core-only. -/
namespace Mp.GoJson

abbrev Mem := Bytes × Bytes

def Sorted (l : List Mem) : Prop := l.Pairwise (fun a b => keyLt a.1 b.1 = true)

theorem perm_insertMember (m : Mem) (l : List Mem) : (insertMember m l).Perm (m :: l) := by
  fun_induction insertMember m l with
  | case1 => exact .refl _
  | case2 x xs _ => exact .refl _
  | case3 x xs _ ih => exact (ih.cons x).trans (.swap m x xs)

theorem sorted_insertMember (m : Mem) (l : List Mem) (hs : Sorted l) (hne : ∀ x ∈ l, x.1 ≠ m.1) : Sorted (insertMember m l) := by
  fun_induction insertMember m l with
  | case1 => exact List.pairwise_singleton _ _
  | case2 x xs hlt =>
    exact List.pairwise_cons.mpr ⟨List.forall_mem_cons.mpr ⟨hlt, fun y hy => keyLt_ord.trans _ _ _ hlt (List.rel_of_pairwise_cons hs hy)⟩, hs⟩
  | case3 x xs hnlt ih =>
    have ⟨hx, hxs⟩ := List.pairwise_cons.mp hs
    -- `x` stays in front: its key is below that of `m` (neither equal nor above) and below the rest
    have hxm : keyLt x.1 m.1 = true := (keyLt_ord.total _ _ (hne x List.mem_cons_self)).resolve_right hnlt
    exact List.pairwise_cons.mpr ⟨fun y hy => (List.mem_cons.mp ((perm_insertMember m xs).subset hy)).elim (· ▸ hxm) (hx y),
      ih hxs (fun y hy => hne y (List.mem_cons_of_mem _ hy))⟩

theorem perm_sortMembers : ∀ l : List Mem, (sortMembers l).Perm l
  | [] => List.Perm.refl _
  | m :: t => (perm_insertMember m (sortMembers t)).trans ((perm_sortMembers t).cons m)

theorem sorted_sortMembers : ∀ l : List Mem, (l.map (·.1)).Nodup → Sorted (sortMembers l)
  | [], _ => List.Pairwise.nil
  | m :: t, hnd => by
    rw [List.map_cons, List.nodup_cons] at hnd
    exact sorted_insertMember m _ (sorted_sortMembers t hnd.2)
      (fun x hx heq => hnd.1 (heq ▸ List.mem_map_of_mem ((perm_sortMembers t).subset hx)))

theorem sortMembers_eq {l s : List Mem} (hp : s.Perm l) (hs : Sorted s) : sortMembers l = s := by
  have hnd : (l.map (·.1)).Nodup := (hp.map _).nodup_iff.mp (keyLt_ord.nodup (List.pairwise_map.mpr hs))
  exact ((perm_sortMembers l).trans hp.symm).eq_of_pairwise
    (fun a b _ _ hab hba => by rw [OrdP.asymm _ keyLt_ord _ _ hab] at hba; cases hba) (sorted_sortMembers l hnd) hs

theorem sort_perm_eq (l1 l2 : List Mem) (hp : l1.Perm l2) (hnd : (l1.map (·.1)).Nodup) : sortMembers l1 = sortMembers l2 :=
  sortMembers_eq ((perm_sortMembers l2).trans hp.symm) (sorted_sortMembers l2 ((hp.map _).nodup_iff.mp hnd))

def O.text : O → Bytes
  | .ok t => t
  | _ => []

/-- the member an entry of a map is written as, when its key and its value are written -/
def entryMember (p : Bytes × GoVal) : Mem := (p.1, (encString p.1).text ++ [58] ++ (marshal p.2).text)

def Written (p : Bytes × GoVal) : Prop := (∃ kt, encString p.1 = .ok kt) ∧ ∃ t, marshal p.2 = .ok t

/-- the listing of the entries `ps` is the list of their members when every key and every value is written; if not, it is the first
    outcome that is not a text -/
def MembersSpec (ps : List (Bytes × GoVal)) : Sum (List Mem) O → Prop
  | .inl ms => (∀ p ∈ ps, Written p) ∧ ms = ps.map entryMember
  | .inr o => (¬ ∀ p ∈ ps, Written p) ∧ ∀ t, o ≠ .ok t

theorem marshalMembers_spec (ps : List (Bytes × GoVal)) : MembersSpec ps (marshalMembers (ps.map (·.1)) (ps.map (·.2))) := by
  induction ps with
  | nil => exact ⟨nofun, rfl⟩
  | cons p ps ih =>
    rw [List.map_cons, List.map_cons, marshalMembers]
    generalize marshalMembers (ps.map (·.1)) (ps.map (·.2)) = r at ih ⊢
    split
    · rename_i kt hk
      split
      · rename_i t hv
        cases r with
        | inl ms => exact ⟨List.forall_mem_cons.mpr ⟨⟨⟨kt, hk⟩, t, hv⟩, ih.1⟩, by rw [ih.2, List.map_cons, entryMember, hk, hv]; rfl⟩
        | inr o => exact ⟨fun h => ih.1 (List.forall_mem_cons.mp h).2, ih.2⟩
      · rename_i hv
        exact ⟨fun h => (h p List.mem_cons_self).2.elim hv, hv⟩
    · rename_i hk
      exact ⟨fun h => (h p List.mem_cons_self).1.elim hk, hk⟩

theorem marshal_map {kk : KeyKind} (hk : kk ≠ .iface) (ks : List Bytes) (vs : List GoVal) :
    marshal (.map kk false ks vs) = (marshalMembers ks vs).elim (fun ms => .ok (objText (sortMembers ms))) id := by
  rw [marshal]
  cases marshalMembers ks vs <;> simp [hk]

theorem marshal_map_ok (kk : KeyKind) (ps : List (Bytes × GoVal)) (t : Bytes) :
    marshal (.map kk false (ps.map (·.1)) (ps.map (·.2))) = .ok t ↔
      kk ≠ .iface ∧ (∀ p ∈ ps, Written p) ∧ objText (sortMembers (ps.map entryMember)) = t := by
  by_cases hk : kk = .iface
  · simp [marshal, hk]
  · have hs := marshalMembers_spec ps
    rw [marshal_map hk]
    generalize marshalMembers (ps.map (·.1)) (ps.map (·.2)) = r at hs ⊢
    cases r with
    | inl ms => exact ⟨fun h => ⟨hk, hs.1, hs.2 ▸ O.ok.inj h⟩, fun h => congrArg O.ok (hs.2 ▸ h.2.2)⟩
    | inr o => exact ⟨fun h => absurd h (hs.2 t), fun h => absurd h.2.1 hs.1⟩

/-- C11, AsJSON: the text written for an object does not depend on the order in which the map lists its entries -/
theorem marshal_map_order_independent (kk : KeyKind) (ps ps' : List (Bytes × GoVal)) (hp : ps.Perm ps')
    (hnd : (ps.map (·.1)).Nodup) (t : Bytes)
    (h : marshal (.map kk false (ps.map (·.1)) (ps.map (·.2))) = .ok t) :
    marshal (.map kk false (ps'.map (·.1)) (ps'.map (·.2))) = .ok t := by
  obtain ⟨hk, hw, ht⟩ := (marshal_map_ok kk ps t).mp h
  refine (marshal_map_ok kk ps' t).mpr ⟨hk, fun p hp' => hw p (hp.mem_iff.mpr hp'), ?_⟩
  rwa [← sort_perm_eq _ _ (hp.map entryMember) (by rwa [List.map_map])]

/-- {"b":true,"a":null} listed either way is written `{"a":null,"b":true}` -/
example : marshal (.map .str false [[98], [97]] [.bool false true, .nil]) = .ok [123, 34, 97, 34, 58, 110, 117, 108, 108, 44, 34, 98, 34, 58, 116, 114, 117, 101, 125] := by
  rfl

#print axioms sort_perm_eq
#print axioms marshal_map_order_independent
end Mp.GoJson
