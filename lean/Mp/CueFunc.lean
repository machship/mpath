import Mp.Cue
import Mp.Generated.FuncTable
/-! C14 — opFunction.Validate for calls whose arguments are literals of the declared kinds: the accept rule
    (known function, argument count, ValidOn against the previous part's type) and the reported result type.
    The descriptor table is regenerated from the running package (`Mp.Generated.funcTable`); what quantifies over its rows is
    decided by kernel evaluation over the table of the day. Core-only. -/
namespace Mp
open Generated

def lookupFunc (name : String) : Option FuncDesc := funcTable.find? (fun fd => fd.name == name)

/-- the two ValidOn tests of opFunction.Validate -/
def validOnOk (fd : FuncDesc) (prev : String × String) : Bool :=
  let typeErr := fd.validOn.2 != "Variadic" && fd.validOn.1 != "Any" && fd.validOn.1 != prev.1
  let ioErr := fd.validOn.1 != "Any" && fd.validOn.2 != prev.2
  !typeErr && !ioErr

/-- GetParamAtPosition succeeds for every supplied argument -/
def argCountOk (fd : FuncDesc) (nargs : Nat) : Bool :=
  nargs ≤ fd.params.length || fd.params.any (fun p => p.2 == "Variadic")

/-- the kind switch on the schema value of the last identifier (lists: their element) -/
def underlyingKind (v : CTy) : String :=
  let e := match v with | .list _ e => e | v => v
  match e with
  | .prim "bool" => "Boolean"
  | .prim "string" | .prim "bytes" => "String"
  | .prim "int" | .prim "float" | .prim "number" => "Number"
  | .struct .. => "Object"
  | _ => "Any"       -- _, lists of lists: no case of the switch applies

def isStructKind (v : CTy) : Bool :=
  match (match v with | .list _ e => e | v => v) with | .struct .. => true | _ => false

/-- the type reported for a call (`returnedType` at the end of opFunction.Validate) -/
def funcReturns (fd : FuncDesc) (prev : String × String) (prevWasFunc : Bool) (lastIdent : CTy) : String × String :=
  let ty :=
    if fd.returns.1 != "Any" then fd.returns.1
    else if fd.name == "Select" then "Any"
    else if fd.name == "AsArray" then (if prev.2 == "Single" then prev.1 else "Any")
    else if prevWasFunc then (if prev.2 == "Array" then prev.1 else "Any")
    else underlyingKind lastIdent
  let ty := if fd.returnsKnown && fd.returns.2 == "Single" && !prevWasFunc && prev.2 == "Array" && isStructKind lastIdent then "Object" else ty
  (ty, fd.returns.2)

/-- a chain of calls after a key path: none = some call is rejected (not `Generated.validateCalls`: the call sites
    of `Validate`) -/
def validateCalls (lastIdent : CTy) : List (String × Nat) → String × String → Bool → Option (String × String)
  | [], prev, _ => some prev
  | (name, nargs) :: rest, prev, prevWasFunc =>
    match lookupFunc name with
    | none => none
    | some fd =>
      if !(validOnOk fd prev && argCountOk fd nargs) then none
      else validateCalls lastIdent rest (funcReturns fd prev prevWasFunc lastIdent) true

/-- the rule the property states: ValidOn admits the receiver's type -/
def admits (validOn prev : String × String) : Bool :=
  (validOn.1 == "Any" || validOn.1 == prev.1) && (validOn.2 == "Variadic" || validOn.2 == prev.2)

/-- the pairs the property leaves unspecified: only the Single/Array side differs, under a ValidOn type of Any -/
def unspecifiedPair (validOn prev : String × String) : Bool :=
  validOn.1 == "Any" && validOn.2 != "Variadic" && validOn.2 != prev.2

/-- C14 (accept rule): for every descriptor and every receiver type, outside the pairs the property leaves unspecified,
    the validator's ValidOn test is exactly "the descriptor's ValidOn admits the type" -/
theorem validOnOk_iff_admits : ∀ fd ∈ funcTable, ∀ t ∈ ["String", "Number", "Boolean", "Object", "Any"], ∀ io ∈ ["Single", "Array"],
    unspecifiedPair fd.validOn (t, io) = false → validOnOk fd (t, io) = admits fd.validOn (t, io) := by
  decide +kernel

theorem every_row_admits_something : ∀ fd ∈ funcTable, ∃ t ∈ ["String", "Number", "Boolean", "Object", "Any"], ∃ io ∈ ["Single", "Array"],
    validOnOk fd (t, io) = true := by
  decide +kernel

#print axioms validOnOk_iff_admits
#print axioms every_row_admits_something
end Mp
