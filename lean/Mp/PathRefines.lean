import Mp.ReflLemmas
/-! C01: a key-only path refines the lookup `pathSpec` on logical documents `Doc`, rendered as json maps or as Go structs.
    `L2` is the namespace of the specification side (`Doc`, `pathSpec`, `Good`, the renderings): `L` for lookup, the digit distinguishes
    nothing. Core-only. -/
namespace Mp
namespace L2

inductive Doc where
  | null
  | bool (b : Bool)
  | num (d : Dec)
  | str (s : Bytes)
  | arr (xs : List Doc)
  | obj (ks : List Bytes) (vs : List Doc)

mutual
def render : Doc → GoVal
  | .null => .nil
  | .bool b => .bool false b
  | .num d => .dec d
  | .str s => .str false s
  | .arr xs => .slice true false (renderList xs)
  | .obj ks vs => .map .str false ks (renderList vs)
def renderList : List Doc → List GoVal
  | [] => []
  | d :: ds => render d :: renderList ds
end

theorem renderList_eq_map (ds : List Doc) : renderList ds = ds.map render := by
  induction ds with
  | nil => rfl
  | cons d ds ih => simp [renderList, ih]

/-- the first (under `UniqueKey`, the only) key equal under folding -/
def specGet (name : Bytes) : List Bytes → List Doc → Option Doc
  | k :: ks, v :: vs => if equalFold k name then some v else specGet name ks vs
  | _, _ => none

def isObj : Doc → Bool | .obj _ _ => true | _ => false
def isNum : Doc → Bool | .num _ => true | _ => false
/-- `getValuesByName` looks at the first element only: it must be struct- or map-kinded. Numbers are rendered as
    decimal.Decimal, which reflect sees as a struct, so a leading number passes the test and contributes nothing
    (DESIGN.md, C01, Observation O2; a leading `float64` fails it). -/
def headOk (x : Doc) : Bool := isObj x || isNum x

def projGet (k : Bytes) : Doc → Option Doc
  | .obj ks vs => specGet k ks vs
  | _ => none

def pathSpec : List Bytes → Doc → Option Doc
  | [], d => some d
  | k :: ks, .obj keys vals => (specGet k keys vals).bind (pathSpec ks)
  | k :: ks, .arr xs =>
    match xs with
    | [] => none
    | x :: _ =>
      if headOk x then
        let found := xs.filterMap (projGet k)
        if found.isEmpty then none else pathSpec ks (.arr found)
      else none
  | _ :: _, _ => none

def UniqueKey (name : Bytes) (keys : List Bytes) : Prop :=
  (∀ k ∈ keys, k ≠ []) ∧ (keys.filter (fun k => equalFold k name)).length ≤ 1

theorem findMapKey_spec (name : Bytes) : ∀ (keys : List Bytes) (vals : List GoVal) (dvals : List Doc),
    vals = renderList dvals → keys.length = dvals.length → UniqueKey name keys →
    findMapKey keys vals name = (specGet name keys dvals).map render := by
  intro keys
  induction keys with
  | nil => intro _ _ _ _ _; rfl
  | cons k ks ih =>
    intro vals dvals hv hl ⟨hne, hlen⟩
    cases dvals with
    | nil => simp at hl
    | cons dv dvs =>
      subst hv
      simp only [renderList, specGet]
      cases hf : equalFold k name with
      | true =>
        have hrest : ∀ k' ∈ ks, equalFold k' name = false := by
          simpa [List.filter_cons, hf, List.filter_eq_nil_iff] using hlen
        rw [findMapKey_cons_of_fold hf (hne k List.mem_cons_self) hrest]
        rfl
      | false =>
        rw [findMapKey_cons_of_not_fold hf]
        exact ih _ dvs rfl (by simpa using hl)
          ⟨fun k' hk' => hne k' (List.mem_cons_of_mem _ hk'), by simpa [List.filter_cons, hf] using hlen⟩

/-- the documents C01 quantifies over: one value per key, no empty key, no two keys equal under folding, no numeral string -/
inductive Good : Doc → Prop
  | null : Good .null
  | bool (b) : Good (.bool b)
  | num (d) : Good (.num d)
  | str (s) : Dec.ofString s = none → Good (.str s)
  | arr (xs) : (∀ x ∈ xs, Good x) → Good (.arr xs)
  | obj (ks vs) : ks.length = vs.length → (∀ name, UniqueKey name ks) → (∀ v ∈ vs, Good v) → Good (.obj ks vs)

theorem specGet_mem {name : Bytes} {ks : List Bytes} {vs : List Doc} {v : Doc} (h : specGet name ks vs = some v) : v ∈ vs := by
  fun_induction specGet name ks vs with
  | case1 k ks w ws hf => cases h; exact List.mem_cons_self
  | case2 k ks w ws hf ih => exact List.mem_cons_of_mem _ (ih h)
  | case3 => cases h

theorem found_good (name : Bytes) (xs : List Doc) (hgs : ∀ x ∈ xs, Good x) : Good (.arr (xs.filterMap (projGet name))) := by
  apply Good.arr
  intro v hv
  obtain ⟨x, hx, hp⟩ := List.mem_filterMap.mp hv
  cases hgs x hx with
  | obj ks vs hl hu hg => exact hg v (specGet_mem hp)
  | _ => cases hp

def idents (ks : List Bytes) : List EPart := ks.map (fun k => EPart.ident k false)

def isNull : Doc → Bool | .null => true | _ => false

-- `pathSpec` one key at a time (`pathSpec_cons`); `identDo_arr` spells the array case once more, on the map rendering
def stepSpec (k : Bytes) : Doc → Option Doc
  | .obj keys vals => specGet k keys vals
  | .arr xs =>
    match xs with
    | [] => none
    | x :: _ => if headOk x then (let found := xs.filterMap (projGet k); if found.isEmpty then none else some (.arr found)) else none
  | _ => none

theorem pathSpec_cons (k : Bytes) (ks : List Bytes) (d : Doc) : pathSpec (k :: ks) d = (stepSpec k d).bind (pathSpec ks) := by
  cases d with
  | arr xs =>
    cases xs with
    | nil => rfl
    | cons x rest =>
      simp only [pathSpec, stepSpec]
      cases headOk x <;> cases ((x :: rest).filterMap (projGet k)).isEmpty <;> rfl
  | _ => rfl

theorem stepSpec_good {k : Bytes} {d v : Doc} (hg : Good d) (h : stepSpec k d = some v) : Good v := by
  cases hg with
  | obj keys vals hl hu hgs => exact hgs v (specGet_mem h)
  | arr xs hgs =>
    cases xs with
    | nil => cases h
    | cons x rest =>
      simp only [stepSpec, Option.ite_none_right_eq_some, Option.ite_none_left_eq_some, Option.some.injEq] at h
      obtain ⟨-, -, rfl⟩ := h
      exact found_good k _ hgs
  | _ => cases h

theorem stepSpec_null (k : Bytes) : stepSpec k .null = none := rfl

/-- What the key step needs of a rendering of documents as Go values: scalars and arrays as JSON decoding makes them, an
    object anything whose field lookup, in an interface-typed slot, is the specification's. -/
structure Rendering where
  r : Doc → GoVal
  null : r .null = .nil
  bool : ∀ b, r (.bool b) = .bool false b
  num : ∀ d, r (.num d) = .dec d
  str : ∀ s, r (.str s) = .str false s
  arr : ∀ xs, r (.arr xs) = .slice true false (xs.map r)
  obj : ∀ ks vs, (r (.obj ks vs)).isObject = true
  field : ∀ name ks vs, Good (.obj ks vs) → fieldByName name (.iface (r (.obj ks vs))) = (specGet name ks vs).map r

namespace Rendering
variable (R : Rendering)

theorem isNil (d : Doc) : isNilVal (R.r d) = isNull d := by
  cases d with
  | obj ks vs => exact isNilVal_object (R.obj ks vs)
  | _ => simp only [R.null, R.bool, R.num, R.str, R.arr]; rfl

theorem head (x : Doc) :
    ((RV.iface (R.r x)).derefAll.kind == .struct || (RV.iface (R.r x)).derefAll.kind == .map) = headOk x := by
  cases x with
  | obj ks vs => exact derefAll_kind_object (R.obj ks vs)
  | _ => simp only [R.null, R.bool, R.num, R.str, R.arr]; rfl

theorem fieldByName_iface (name : Bytes) (x : Doc) (hg : Good x) :
    fieldByName name (.iface (R.r x)) = (projGet name x).map R.r := by
  cases x with
  | obj ks vs => exact R.field name ks vs hg
  | arr xs => rw [R.arr]; exact fieldByName_iface_slice name _ _ _
  | _ => simp only [R.null, R.bool, R.num, R.str]; exact fieldByName_iface_leaf name rfl

theorem filterMap_fieldByName (name : Bytes) (xs : List Doc) (hg : ∀ x ∈ xs, Good x) :
    ((xs.map R.r).map RV.iface).filterMap (fieldByName name) = (xs.filterMap (projGet name)).map R.r := by
  induction xs with
  | nil => rfl
  | cons x xs ih =>
    simp only [List.map_cons, List.filterMap_cons, R.fieldByName_iface name x (hg x List.mem_cons_self),
      ih fun y hy => hg y (List.mem_cons_of_mem _ hy)]
    cases projGet name x <;> rfl

theorem step (k : Bytes) (d : Doc) (hg : Good d) :
    identDo k (R.r d) = match stepSpec k d with | some v => .ok (R.r v) | none => .knf := by
  cases hg with
  | obj ks vs hl hu hgs =>
    rw [identDo_object k (R.obj ks vs), R.field k ks vs (.obj ks vs hl hu hgs)]
    simp only [stepSpec]
    cases specGet k ks vs <;> rfl
  | arr xs hgs =>
    rw [R.arr, identDo_slice, R.filterMap_fieldByName k _ hgs, List.isEmpty_map, ← R.arr]
    cases xs with
    | nil => rfl
    | cons x rest =>
      simp only [List.map_cons, R.head, stepSpec]
      cases headOk x <;> cases ((x :: rest).filterMap (projGet k)).isEmpty <;> rfl
  | _ => simp only [R.null, R.bool, R.num, R.str]; exact identDo_leaf k rfl

end Rendering

/-- what the loop lemmas need from a rendering of documents as Go values -/
structure Carrier where
  r : Doc → GoVal
  step : ∀ (k : Bytes) (d : Doc), Good d → identDo k (r d) = match stepSpec k d with | some v => .ok (r v) | none => .knf
  nil : ∀ d, isNilVal (r d) = isNull d

def Rendering.toCarrier (R : Rendering) : Carrier := ⟨R.r, R.step, R.isNil⟩

/-- the loop of `opPath.Do` from any state it can be in at `d`: a null has been met before (`pn`) only if `d` itself is null -/
theorem parts_refine (C : Carrier) (orig : GoVal) (ks : List Bytes) (d : Doc) (pn : Bool) (pv : Option Bool) (hg : Good d)
    (hpn : pn = true → isNull d = true) :
    sParts (idents ks) (C.r d) orig pn pv = match pathSpec ks d with | some v => .ok (C.r v) | none => .knf := by
  induction ks generalizing d pn pv with
  | nil => rfl
  | cons k ks ih =>
    simp only [idents, List.map_cons]
    unfold sParts
    rw [sPart_ident, pathSpec_cons, C.step k d hg]
    cases hs : stepSpec k d with
    | none => simp
    | some v =>
      -- a step that finds something starts at a document that is not null, so no null has been met
      have hn : pn = false := by
        cases pn with
        | false => rfl
        | true =>
          cases d with
          | null => cases hs
          | _ => cases hpn rfl
      subst hn
      simp only [Bool.and_false, Bool.false_and, Bool.false_eq_true, if_false, Option.bind_some, Bool.false_or]
      exact ih v _ _ (stepSpec_good hg hs) (by rw [C.nil]; exact id)

/-- C01, for any carrier: `$.k1.….kn` returns exactly the value stored under those keys, matched without regard to case and
    projected across arrays in order, or key-not-found; for paths of any length and documents of any depth and width. -/
theorem path_refines_on (C : Carrier) (ks : List Bytes) (d : Doc) (hg : Good d) (hne : ks ≠ []) :
    sPath (.mk true false (idents ks)) (C.r d) (C.r d) =
      match pathSpec ks d with | some v => .ok (C.r v) | none => .knf := by
  unfold sPath
  cases ks with
  | nil => exact absurd rfl hne
  | cons k ks => exact parts_refine C (C.r d) (k :: ks) d false none hg (fun h => by cases h)

theorem numberKindsToDecimal_render (v : Doc) : numberKindsToDecimal (render v) = render v :=
  numberKindsToDecimal_of_kind (by cases v <;> simp [render, GoVal.kind])

/-- what the numeral condition of `Good.str` is for: the receiver of a call goes through `toDecimalIfNumber` (`sPart`, `.func`), which
    turns a string that reads as a numeral into a number; on a `Good` document it changes nothing. No theorem about paths of keys needs it. -/
theorem todec_render (v : Doc) (hg : Good v) : toDecimalIfNumber (render v) = render v := by
  cases hg with
  | str s h => exact toDecimalIfNumber_str h
  | _ => exact toDecimalIfNumber_of_kind (by simp [render, GoVal.kind])

/-- documents as encoding/json produces them: map[string]any, []any -/
def mapRendering : Rendering where
  r := render
  null := rfl
  bool _ := rfl
  num _ := rfl
  str _ := rfl
  arr xs := by simp only [render, renderList_eq_map]
  obj _ _ := rfl
  field name ks vs hg := by
    cases hg with
    | obj _ _ hl hu _ =>
      simp only [render]
      rw [fieldByName_iface_map, findMapKey_spec name ks _ vs rfl hl (hu name)]
      cases specGet name ks vs <;> simp [numberKindsToDecimal_render]

def mapCarrier : Carrier := mapRendering.toCarrier

theorem fieldByName_render (name : Bytes) (x : Doc) (hg : Good x) :
    fieldByName name (.iface (render x)) = (projGet name x).map render :=
  mapRendering.fieldByName_iface name x hg

theorem identDo_arr (name : Bytes) (xs : List Doc) (hgs : ∀ x ∈ xs, Good x) :
    identDo name (render (.arr xs)) =
      match xs with
      | [] => .knf
      | x :: _ =>
        if headOk x then
          (if (xs.filterMap (projGet name)).isEmpty then .knf else .ok (render (.arr (xs.filterMap (projGet name)))))
        else .knf := by
  refine (mapRendering.step name _ (.arr xs hgs)).trans ?_
  cases xs with
  | nil => rfl
  | cons x rest =>
    simp only [stepSpec]
    cases headOk x <;> cases ((x :: rest).filterMap (projGet name)).isEmpty <;> rfl

/-- C01 on JSON-decoded data -/
theorem path_refines (ks : List Bytes) (d : Doc) (hg : Good d) (hne : ks ≠ []) :
    sPath (.mk true false (idents ks)) (render d) (render d) =
      match pathSpec ks d with | some v => .ok (render v) | none => .knf :=
  path_refines_on mapCarrier ks d hg hne

/-! the struct carrier: objects as Go structs with exported fields (the `true`) named like the keys, arrays as []any -/

mutual
def renderS : Doc → GoVal
  | .null => .nil
  | .bool b => .bool false b
  | .num d => .dec d
  | .str s => .str false s
  | .arr xs => .slice true false (renderSList xs)
  | .obj ks vs => .struct (ks.map (fun k => (k, true))) (renderSList vs)
def renderSList : List Doc → List GoVal
  | [] => []
  | d :: ds => renderS d :: renderSList ds
end

theorem renderSList_eq_map (ds : List Doc) : renderSList ds = ds.map renderS := by
  induction ds with
  | nil => rfl
  | cons d ds ih => simp [renderSList, ih]

theorem numberKindsToDecimal_renderS (v : Doc) : numberKindsToDecimal (renderS v) = renderS v :=
  numberKindsToDecimal_of_kind (by cases v <;> simp [renderS, GoVal.kind])

theorem findField_spec (name : Bytes) (ks : List Bytes) (vs : List Doc) :
    (((ks.map (fun k => (k, true))).zip (renderSList vs)).find? (fun p => p.1.2 && equalFold p.1.1 name)).map
        (fun p => numberKindsToDecimal p.2) = (specGet name ks vs).map renderS := by
  induction ks generalizing vs with
  | nil => simp [specGet]
  | cons k ks ih =>
    cases vs with
    | nil => simp [specGet, renderSList]
    | cons v vs =>
      simp only [List.map_cons, renderSList, List.zip_cons_cons, List.find?_cons, specGet, Bool.true_and]
      cases hf : equalFold k name with
      | true => simp [numberKindsToDecimal_renderS]
      | false => simpa using ih vs

def structRendering : Rendering where
  r := renderS
  null := rfl
  bool _ := rfl
  num _ := rfl
  str _ := rfl
  arr xs := by simp only [renderS, renderSList_eq_map]
  obj _ _ := rfl
  field name ks vs _ := by
    simp only [renderS]
    rw [fieldByName_iface_struct, findField_spec]

/-- C01 on struct data -/
theorem path_refines_struct (ks : List Bytes) (d : Doc) (hg : Good d) (hne : ks ≠ []) :
    sPath (.mk true false (idents ks)) (renderS d) (renderS d) =
      match pathSpec ks d with | some v => .ok (renderS v) | none => .knf :=
  path_refines_on structRendering.toCarrier ks d hg hne

/-- C10 for key-only paths: maps and structs give the same logical answer -/
theorem path_carrier_independent (ks : List Bytes) (d : Doc) (hg : Good d) (hne : ks ≠ []) :
    ∃ o : Option Doc,
      sPath (.mk true false (idents ks)) (render d) (render d) = (match o with | some v => .ok (render v) | none => .knf) ∧
      sPath (.mk true false (idents ks)) (renderS d) (renderS d) = (match o with | some v => .ok (renderS v) | none => .knf) :=
  ⟨pathSpec ks d, path_refines ks d hg hne, path_refines_struct ks d hg hne⟩

/-- non-vacuity: an array of heterogeneous objects, projected with a re-cased key -/
def exDoc : Doc := .obj [[108]] [.arr [.obj [[107]] [.num ⟨1, 0⟩], .obj [[122]] [.num ⟨2, 0⟩], .obj [[75]] [.num ⟨3, 0⟩]]]
example : pathSpec [[76], [107]] exDoc = some (.arr [.num ⟨1, 0⟩, .num ⟨3, 0⟩]) := by rfl
example : pathSpec [[108], [113]] exDoc = none := by rfl
theorem uk_single (name k : Bytes) (h : k ≠ []) : UniqueKey name [k] :=
  ⟨by simpa using h, List.length_filter_le _ [k]⟩

theorem good_single (k : Bytes) (v : Doc) (h : k ≠ []) (hv : Good v) : Good (.obj [k] [v]) :=
  Good.obj [k] [v] rfl (fun name => uk_single name k h) (by simpa using hv)

example : Good exDoc := by
  unfold exDoc
  apply good_single _ _ (by simp)
  apply Good.arr
  intro x hx
  simp at hx
  rcases hx with h | h | h <;> subst h <;> exact good_single _ _ (by simp) (Good.num _)

#print axioms path_refines
#print axioms path_refines_struct
#print axioms path_carrier_independent
end L2
end Mp
