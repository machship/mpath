import Mp.DecProofs
import Mp.PureFuncEqs
/-! C05 — the six relations of the evaluator model. -/
namespace Mp
open Dec

theorem decBool_true_iff (a b : Dec) (f : Ordering → Bool) :
    some (Fn.decBool [.num b] (.dec a) f) = some (okBool true) ↔ f (compare a.toRat b.toRat) = true := by
  rw [Fn.decBool_num, Option.some_inj, okBool_inj, cmp_spec]

/-- C05, by value: each relation is true exactly when the corresponding relation holds between the rational values -/
theorem less_iff (a b : Dec) : pureFunc "Less" [.num b] (.dec a) = some (okBool true) ↔ a.toRat < b.toRat := by
  rw [pureFunc_Less, decBool_true_iff, beq_iff_eq, compare_lt_iff_lt]
theorem greater_iff (a b : Dec) : pureFunc "Greater" [.num b] (.dec a) = some (okBool true) ↔ b.toRat < a.toRat := by
  rw [pureFunc_Greater, decBool_true_iff, beq_iff_eq, compare_gt_iff_gt]
theorem equal_iff (a b : Dec) : pureFunc "Equal" [.num b] (.dec a) = some (okBool true) ↔ a.toRat = b.toRat := by
  rw [pureFunc_Equal, Fn.equal_num, Option.some_inj, okBool_inj, cmp_beq_eq]
theorem lessOrEqual_iff (a b : Dec) : pureFunc "LessOrEqual" [.num b] (.dec a) = some (okBool true) ↔ a.toRat ≤ b.toRat := by
  rw [pureFunc_LessOrEqual, decBool_true_iff, bne_iff_ne, compare_le_iff_le]
theorem greaterOrEqual_iff (a b : Dec) : pureFunc "GreaterOrEqual" [.num b] (.dec a) = some (okBool true) ↔ b.toRat ≤ a.toRat := by
  rw [pureFunc_GreaterOrEqual, decBool_true_iff, bne_iff_ne, compare_ge_iff_ge]
theorem notEqual_iff (a b : Dec) : pureFunc "NotEqual" [.num b] (.dec a) = some (okBool true) ↔ a.toRat ≠ b.toRat := by
  rw [pureFunc_NotEqual, Fn.equal_num, Fn.neg_okBool, Option.some_inj, okBool_inj, Bool.not_eq_true', ← Bool.not_eq_true, cmp_beq_eq]

/-- C05, coherence: exactly one of Less / Equal / Greater; LessOrEqual = Less ∨ Equal; GreaterOrEqual = Greater ∨ Equal;
    NotEqual = ¬Equal — as facts about the three booleans the functions return -/
theorem relations_coherent (a b : Dec) :
    let lt := (cmp a b == .lt); let eq := (cmp a b == .eq); let gt := (cmp a b == .gt)
    ((lt && !eq && !gt) || (!lt && eq && !gt) || (!lt && !eq && gt)) = true ∧
    (cmp a b != .gt) = (lt || eq) ∧ (cmp a b != .lt) = (gt || eq) := by
  cases cmp a b <;> decide

/-- C05, representation independence: the same two values in any other representation give the same six answers -/
theorem relations_repr_independent (a a' b b' : Dec) (ha : a.toRat = a'.toRat) (hb : b.toRat = b'.toRat) (nm : String)
    (hn : nm ∈ ["Less", "LessOrEqual", "Greater", "GreaterOrEqual", "Equal", "NotEqual"]) :
    pureFunc nm [.num b] (.dec a) = pureFunc nm [.num b'] (.dec a') := by
  have hc := cmp_repr_independent a a' b b' ha hb
  -- one goal per listed name; `simp` opens each by its equation (PureFuncEqs), and `hc` makes the two sides one
  revert nm
  simp only [List.forall_mem_cons]
  simp [hc]

/-- values of different kinds are never equal: a number never equals a string or a boolean argument … -/
theorem equal_num_vs_other (a : Dec) (p : Prm) (hp : ∀ d, p ≠ .num d) : pureFunc "Equal" [p] (.dec a) = some (okBool false) := by
  rw [pureFunc_Equal]
  cases p with
  | num d => exact absurd rfl (hp d)
  | _ => rfl
/-- … and a string or boolean never equals an argument of another kind; equal kinds compare exactly -/
theorem equal_str (s t : Bytes) : pureFunc "Equal" [.str t] (.str false s) = some (okBool (s == t)) := pureFunc_Equal _ _
theorem equal_bool (x y : Bool) : pureFunc "Equal" [.bool y] (.bool false x) = some (okBool (x == y)) := pureFunc_Equal _ _
theorem equal_str_vs_other (s : Bytes) (p : Prm) (hp : ∀ t, p ≠ .str t) : pureFunc "Equal" [p] (.str false s) = some (okBool false) := by
  rw [pureFunc_Equal]
  cases p with
  | str t => exact absurd rfl (hp t)
  | _ => rfl

#print axioms less_iff
#print axioms greater_iff
#print axioms equal_iff
#print axioms lessOrEqual_iff
#print axioms greaterOrEqual_iff
#print axioms notEqual_iff
#print axioms relations_coherent
#print axioms relations_repr_independent
#print axioms equal_num_vs_other
#print axioms equal_str
#print axioms equal_str_vs_other
end Mp
