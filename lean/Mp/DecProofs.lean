import Mp.RescaleProofs
import Mathlib.Tactic.Ring
import Mathlib.Tactic.Linarith
-- not for `positivity`, which no proof calls, but for the order lemmas on ℚ it brings in: `abs_mul` here, `abs_div` and `div_neg_iff` in DivProofs
import Mathlib.Tactic.Positivity
/-! The decimal model over ℚ. C04: Add, Subtract and Multiply are exact (`add_toRat`, `sub_toRat`, `mul_toRat`); C05: `cmp_spec`,
    and the forms of it that the function theorems use. -/
namespace Mp
namespace Dec

def toRat (d : Dec) : ℚ := d.coef * (10 : ℚ) ^ d.exp

theorem ten_ne : (10 : ℚ) ≠ 0 := by norm_num
theorem ten_pos (e : Int) : (0 : ℚ) < (10 : ℚ) ^ e := zpow_pos (by norm_num) e

theorem toRat_shift (c : Int) {k e e' : Int} (hk : 0 ≤ k) (h : e + k = e') :
    toRat ⟨c * 10 ^ k.toNat, e⟩ = toRat ⟨c, e'⟩ := by
  obtain ⟨n, rfl⟩ := Int.eq_ofNat_of_zero_le hk
  simp only [toRat, ← h, Int.toNat_natCast, Int.cast_mul, Int.cast_pow, Int.cast_ofNat, zpow_add₀ ten_ne, zpow_natCast]
  ring

theorem toRat_eq_zero {d : Dec} : d.toRat = 0 ↔ d.coef = 0 := by
  simp [toRat, (ten_pos d.exp).ne']

theorem natAbs_cast (n : Int) : ((n.natAbs : Int) : ℚ) = |(n : ℚ)| := by
  rw [Int.natCast_natAbs, Int.cast_abs]

theorem abs_toRat (d : Dec) : d.abs.toRat = |d.toRat| := by
  rw [toRat, toRat, abs_mul, abs_of_pos (ten_pos _), ← natAbs_cast]
  rfl

theorem rescale_toRat {d : Dec} {e : Int} (h : e ≤ d.exp) : (d.rescale e).toRat = d.toRat := by
  rw [rescale_of_le h]
  exact toRat_shift d.coef (by omega) (by omega)

theorem add_toRat (a b : Dec) : (a.add b).toRat = a.toRat + b.toRat := by
  rw [← rescale_toRat (min_le_left a.exp b.exp), ← rescale_toRat (min_le_right a.exp b.exp), add, rescalePair_eq]
  simp only [toRat, rescale_exp, Int.cast_add, add_mul]

theorem sub_toRat (a b : Dec) : (a.sub b).toRat = a.toRat - b.toRat := by
  rw [← rescale_toRat (min_le_left a.exp b.exp), ← rescale_toRat (min_le_right a.exp b.exp), sub, rescalePair_eq]
  simp only [toRat, rescale_exp, Int.cast_sub, sub_mul]

theorem mul_toRat (a b : Dec) : (a.mul b).toRat = a.toRat * b.toRat := by
  simp only [mul, toRat, Int.cast_mul, zpow_add₀ ten_ne]
  ring

/-- C05: the decimal comparison is the comparison of the values -/
theorem cmp_spec (a b : Dec) : cmp a b = compare a.toRat b.toRat := by
  rw [← rescale_toRat (min_le_left a.exp b.exp), ← rescale_toRat (min_le_right a.exp b.exp), cmp, rescalePair_eq]
  simp only [toRat, rescale_exp, ← cmp_eq_compare]
  rw [cmp_mul_pos_right (ten_pos _), Int.cast_strictMono.cmp_map_eq]

theorem cmp_eq_lt (a b : Dec) : cmp a b = .lt ↔ a.toRat < b.toRat := by rw [cmp_spec, compare_lt_iff_lt]
theorem cmp_eq_eq (a b : Dec) : cmp a b = .eq ↔ a.toRat = b.toRat := by rw [cmp_spec, compare_eq_iff_eq]
theorem cmp_eq_gt (a b : Dec) : cmp a b = .gt ↔ b.toRat < a.toRat := by rw [cmp_spec, compare_gt_iff_gt]

theorem cmp_beq_lt (a b : Dec) : (cmp a b == .lt) = true ↔ a.toRat < b.toRat := by rw [beq_iff_eq, cmp_eq_lt]
theorem cmp_beq_gt (a b : Dec) : (cmp a b == .gt) = true ↔ b.toRat < a.toRat := by rw [beq_iff_eq, cmp_eq_gt]
theorem cmp_beq_eq (a b : Dec) : (cmp a b == .eq) = true ↔ a.toRat = b.toRat := by rw [beq_iff_eq, cmp_eq_eq]

theorem trichotomy (a b : Dec) :
    (cmp a b = .lt ∧ a.toRat < b.toRat) ∨ (cmp a b = .eq ∧ a.toRat = b.toRat) ∨ (cmp a b = .gt ∧ a.toRat > b.toRat) := by
  simpa only [cmp_eq_lt, cmp_eq_eq, cmp_eq_gt, gt_iff_lt, and_self] using lt_trichotomy a.toRat b.toRat

theorem cmp_repr_independent (a a' b b' : Dec) (ha : a.toRat = a'.toRat) (hb : b.toRat = b'.toRat) : cmp a b = cmp a' b' := by
  rw [cmp_spec, cmp_spec, ha, hb]

example : (add ⟨1, -1⟩ ⟨2, -1⟩) = ⟨3, -1⟩ := by decide      -- 0.1 + 0.2 = 0.3 exactly
example : cmp ⟨10, 0⟩ ⟨100, -1⟩ = .eq := by decide             -- 10 = 10.0

#print axioms add_toRat
#print axioms cmp_spec
end Dec
end Mp
