import Mp.ReflLemmas
/-! C10: the functions of `pureFunc` answer alike on values of the same logical content in different carriers. Core-only. -/
namespace Mp

/-- same logical content, different carrier: integer kind and width, named types, one pointer, typed or untyped slice,
    array instead of slice. (`nilSlice` relates the same two values as `nil`: the name promises a nil slice, the rule has none.) -/
inductive Sim : GoVal → GoVal → Prop
  | nil : Sim .nil .nil
  | bool (n n' : Bool) (b : Bool) : Sim (.bool n b) (.bool n' b)
  | str (n n' : Bool) (s : Bytes) : Sim (.str n s) (.str n' s)
  | int (k k' : NumKind) (n n' : Bool) (v : Int) : Sim (.int k n v) (.int k' n' v)
  | intDec (k : NumKind) (n : Bool) (v : Int) : Sim (.int k n v) (.dec ⟨v, 0⟩)
  | decInt (k : NumKind) (n : Bool) (v : Int) : Sim (.dec ⟨v, 0⟩) (.int k n v)
  | dec (d : Dec) : Sim (.dec d) (.dec d)
  | ptrInt (k k' : NumKind) (n n' : Bool) (v : Int) : Sim (.ptr false (.int k n v)) (.int k' n' v)
  | intPtr (k k' : NumKind) (n n' : Bool) (v : Int) : Sim (.int k n v) (.ptr false (.int k' n' v))
  | ptrStr (n n' : Bool) (s : Bytes) : Sim (.ptr false (.str n s)) (.str n' s)
  | ptrBool (n n' : Bool) (b : Bool) : Sim (.ptr false (.bool n b)) (.bool n' b)
  | nilSlice : Sim .nil .nil
  | sliceNil (ei ei' : Bool) : Sim (.slice ei false []) (.slice ei' false [])
  | sliceCons (ei ei' : Bool) (x y : GoVal) (xs ys : List GoVal) :
      Sim x y → Sim (.slice ei false xs) (.slice ei' false ys) → Sim (.slice ei false (x :: xs)) (.slice ei' false (y :: ys))
  | arraySlice (ei ei' : Bool) (xs ys : List GoVal) : Sim (.slice ei false xs) (.slice ei' false ys) →
      Sim (.array ei xs) (.slice ei' false ys)
  | sliceArray (ei ei' : Bool) (xs ys : List GoVal) : Sim (.slice ei false xs) (.slice ei' false ys) →
      Sim (.slice ei false xs) (.array ei' ys)

/-- C10: carriers are erased by normalisation -/
theorem sim_normalize : ∀ {v w : GoVal}, Sim v w → normalizeValue v = normalizeValue w := by
  intro v w h
  induction h with
  | sliceCons ei ei' x y xs ys _ _ ih1 ih2 =>
    rw [norm_slice, norm_slice] at ih2 ⊢
    rw [normalizeList, normalizeList, ih1, (GoVal.slice.inj ih2).2.2]
  | arraySlice ei ei' xs ys _ ih => rw [norm_array]; rw [norm_slice] at ih; exact ih
  | sliceArray ei ei' xs ys _ ih => rw [norm_array]; rw [norm_slice] at ih ⊢; exact ih
  | _ => rfl

/-- hence every modelled function gives the same outcome whatever carrier the receiver arrived in -/
theorem func_carrier_independent (nm : String) (ps : List Prm) {v w : GoVal} (h : Sim v w) :
    pureFunc nm ps (toDecimalIfNumber (normalizeValue v)) = pureFunc nm ps (toDecimalIfNumber (normalizeValue w)) := by
  rw [sim_normalize h]

example : Sim (.slice false false [.int .int8 true 3, .int .int8 true 4]) (.array true [.dec ⟨3, 0⟩, .ptr false (.int .uint64 false 4)]) :=
  .sliceArray _ _ _ _ (.sliceCons _ _ _ _ _ _ (.intDec _ _ _) (.sliceCons _ _ _ _ _ _ (.intPtr _ _ _ _ _) (.sliceNil _ _)))

theorem objectAsMap_struct (ks : List Bytes) (vs : List GoVal) (h : ks.length = vs.length) :
    objectAsMap (.struct (ks.map (fun k => (k, true))) vs) = .map .str false ks vs := by
  unfold objectAsMap
  induction ks generalizing vs with
  | nil => cases List.eq_nil_of_length_eq_zero h.symm; rfl
  | cons k ks ih =>
    cases vs with
    | nil => cases h
    | cons v vs => simpa using ih vs (Nat.succ.inj h)

theorem objectAsMap_ptr_struct (ks : List Bytes) (vs : List GoVal) (h : ks.length = vs.length) :
    objectAsMap (.ptr false (.struct (ks.map (fun k => (k, true))) vs)) = .map .str false ks vs := by
  unfold objectAsMap
  rw [objectAsMap_struct ks vs h]

theorem objectAsMap_ptr_map (kk : KeyKind) (n : Bool) (ks : List Bytes) (vs : List GoVal) :
    objectAsMap (.ptr false (.map kk n ks vs)) = .map kk n ks vs :=
  rfl

/-- C10 for whole-object functions: the receiver every function sees is the same for the struct carrier and for the
    map carrier of one object, hence so is the outcome of every modelled function (Sum, IsEmpty, RemoveKeysBy*, Any …) -/
theorem object_receiver_carrier_independent (nm : String) (ps : List Prm) (ks : List Bytes) (vs : List GoVal) (h : ks.length = vs.length) :
    pureFunc nm ps (toDecimalIfNumber (objectAsMap (normalizeValue (.struct (ks.map (fun k => (k, true))) vs)))) =
    pureFunc nm ps (toDecimalIfNumber (objectAsMap (normalizeValue (.map .str false ks vs)))) := by
  rw [norm_struct, norm_map, objectAsMap_struct ks vs h]
  rfl

#print axioms func_carrier_independent
#print axioms object_receiver_carrier_independent
#print axioms objectAsMap_ptr_map
#print axioms objectAsMap_ptr_struct
end Mp
