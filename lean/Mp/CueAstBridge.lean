import Mp.CueAstF
import Mp.CueAstProofs
/-! C15 — `ext_X`: `vXF` of `Mp/CueAstF.lean` (filters, `@` arguments, the cue path threaded) extends `vX` of `Mp/CueAst.lean`, which
    carries the theorems of `Mp/CueAstProofs.lean` (C13 / C14 / C15) over to the validator with filters. Core-only. -/
namespace Mp
open Generated

theorem finishKeysB_nil (root : CTy) (bl : List String) (ks : List String) : finishKeysB root bl [] ks = finishKeys root bl ks := rfl

mutual
theorem ext_path (root : CTy) (bl : List String) (top : Bool) (base : List String) (hb : top = true → base = []) (p : PathOp)
    (r : List String × (String × String)) (h : vPath root bl top p = some r) : vPathF root bl base p = some r := by
  cases p with
  | mk i isRoot f m ops us =>
    obtain ⟨hr, hparts⟩ := vPath_eq_some.1 h
    refine ext_parts root bl _ (.keys []) (fun _ _ => ?_) ops r hparts
    -- a path that `vPath` answers on starts at the root: it is handed no cue path
    cases isRoot with
    | true => rfl
    | false => exact hb (hr.resolve_left (by simp))
termination_by structural p
theorem ext_parts (root : CTy) (bl : List String) (eb : List String) (st : PState) (hk : ∀ ks, st = .keys ks → eb = []) (ops : List PathPart)
    (r : List String × (String × String)) (h : vParts root bl st ops = some r) : vPartsF root bl eb st ops = some r := by
  -- where the two walks have the same text, the hypothesis is the goal: `finishKeysB root bl []` is `finishKeys root bl` by definition
  cases ops with
  | nil =>
    cases st with
    | keys ks =>
      cases hk ks rfl
      exact h
    | calls | stopped => exact h
  | cons op rest =>
    cases op with
    | ident name pr us =>
      cases st with
      | keys ks =>
        simp only [vParts] at h
        simp only [vPartsF]
        split at h
        · next n hn => simp only [hn]; exact ext_parts root bl eb (.keys (ks ++ [n])) (fun _ _ => hk ks rfl) rest r h
        · cases h
      | calls => cases h
      | stopped e => exact ext_parts root bl eb (.stopped e) (fun _ => nofun) rest r h
    | filter lo us => cases h
    | func inv nm ps us =>
      cases inv with
      | true => cases h
      | false =>
        -- the call itself, met after calls, with the receiver's cue path `cp`
        have call : ∀ cp last prev pwf e, vParts root bl (.calls last prev pwf e) (.func false nm ps us :: rest) = some r →
            vPartsF root bl cp (.calls last prev pwf e) (.func false nm ps us :: rest) = some r := by
          intro cp last prev pwf e hh
          obtain ⟨fd, perrs, hfd, hp, hr⟩ := vParts_calls_func hh
          simp only [vPartsF, Bool.false_eq_true, if_false, hfd, ext_params root bl cp fd 0 none ps perrs hp]
          exact ext_parts root bl cp _ (fun _ hh2 => by cases hh2) rest r hr
        cases st with
        | keys ks =>
          cases hk ks rfl
          rw [vParts_keys_end (by simp)] at h
          rcases finishKeys_cases root bl ks with hc | ⟨c, hc⟩ | ⟨last, prev, hc⟩ <;> rw [hc] at h
          · cases h
          · simp only [vPartsF, finishKeysB_nil, hc]
            exact ext_parts root bl [] (.stopped [c]) (fun _ => nofun) rest r h
          · simpa only [vPartsF, finishKeysB_nil, hc] using call ([] ++ ks) last prev false [] h
        | calls last prev pwf e => exact call eb last prev pwf e h
        | stopped e => exact ext_parts root bl eb (.stopped e) (fun _ => nofun) rest r h
termination_by structural ops
theorem ext_params (root : CTy) (bl : List String) (cp : List String) (fd : FuncDesc) (i : Nat) (vp : Option Nat) (ps : List Param)
    (e : List String) (h : vParams root bl fd i vp ps = some e) : vParamsF root bl cp fd i vp ps = some e := by
  cases ps with
  | nil => exact h
  | cons p rest =>
    obtain ⟨r, hp, more, hr, rfl⟩ := vParams_cons_eq_some.1 h
    simp only [vParamsF, ext_param root bl cp p r hp, ext_params root bl cp fd (i + 1) _ rest more hr]
termination_by structural ps
theorem ext_param (root : CTy) (bl : List String) (cp : List String) (p : Param) (r : List String × (String × String))
    (h : vParam root bl p = some r) : vParamF root bl cp p = some r := by
  cases p with
  | num _ | str _ | bool _ => exact h
  | path q => exact ext_path root bl false cp nofun q r h
  | logic l => exact ext_logic root bl false cp nofun l r h
termination_by structural p
theorem ext_logic (root : CTy) (bl : List String) (top : Bool) (cp : List String) (hb : top = true → cp = []) (l : LogicOp)
    (r : List String × (String × String)) (h : vLogic root bl top l = some r) : vLogicF root bl cp false l = some r := by
  cases l with
  | mk inv f t ops us =>
    obtain ⟨rfl, errs, hl, rfl⟩ := vLogic_eq_some.1 h
    simp only [vLogicF, Bool.false_eq_true, if_false, ext_lparts root bl top cp hb ops errs hl]
termination_by structural l
theorem ext_lparts (root : CTy) (bl : List String) (top : Bool) (cp : List String) (hb : top = true → cp = []) (ops : List LogicPart)
    (e : List String) (h : vLParts root bl top ops = some e) : vLPartsF root bl cp false ops = some e := by
  cases ops with
  | nil => exact h
  | cons op rest =>
    cases op with
    | path p =>
      simp only [vLParts] at h
      split at h
      · next errs pty more hp hr =>
        simpa only [vLPartsF, ext_path root bl top cp hb p _ hp, ext_lparts root bl top cp hb rest more hr, Bool.not_false, Bool.and_true] using h
      · cases h
    | logic l =>
      simp only [vLParts] at h
      split at h
      · next errs pty more hp hr =>
        simpa only [vLPartsF, ext_logic root bl top cp hb l _ hp, ext_lparts root bl top cp hb rest more hr] using h
      · cases h
termination_by structural ops
end

/-- where `vTop` answers, `vTopF` gives the same answer, so the theorems about `vTop` (`accepted_reads_no_blocked_field`,
    `blocked_head_never_accepted`, `vTop_key_path`) hold of what the driver answers with either on the operations `vTop` covers -/
theorem vTopF_extends_vTop (root : CTy) (bl : List String) (t : TopOp) (r : List String × (String × String))
    (h : vTop root bl t = some r) : vTopF root bl t = some r := by
  cases t with
  | path p => exact ext_path root bl true [] (fun _ => rfl) p r h
  | logic l => exact ext_logic root bl true [] (fun _ => rfl) l r h

end Mp
