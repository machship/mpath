import Mp.Parse
/-! C03 — what the parser makes of the keyword of a group: `{..}` (no keyword) and `{AND,..}` are AND groups, `{OR,..}` is an
    OR group, anything else is flagged invalid. -/
namespace Mp

def LogicOp.inv : LogicOp → Bool | .mk i _ _ _ _ => i
def LogicOp.isF : LogicOp → Bool | .mk _ f _ _ _ => f
def LogicOp.ty : LogicOp → Bytes | .mk _ _ t _ _ => t

theorem logicLoop_keeps (T : Tables) : ∀ (fuel : Nat) (inv isF : Bool) (ty : Bytes) (ops : List LogicPart) (us : Bytes) (r : TokKind) (s : Sc)
    (l : LogicOp) (r' : TokKind) (s' : Sc),
    logicLoop T fuel inv isF ty ops us r s = .ok l r' s' → l.inv = inv ∧ l.isF = isF ∧ l.ty = ty := by
  intro fuel
  induction fuel with
  | zero => intro inv isF ty ops us r s l r' s' h; unfold logicLoop at h; cases h
  | succ f ih =>
    intro inv isF ty ops us r s l r' s' h
    unfold logicLoop at h
    -- every branch re-enters the loop with the same flags and type, returns a group made of them, or fails
    repeat' split at h
    all_goals first | exact ih _ _ _ _ _ _ _ _ _ _ h | cases h <;> exact ⟨rfl, rfl, rfl⟩

/-- C03: a group that the parser does not flag invalid is an AND group or an OR group -/
theorem parseLogic_type (T : Tables) (fuel : Nat) (isF : Bool) (r : TokKind) (s : Sc) (l : LogicOp) (r' : TokKind) (s' : Sc)
    (h : parseLogic T fuel isF r s = .ok l r' s') (hv : l.inv = false) : l.ty = str "And" ∨ l.ty = str "Or" := by
  revert h
  fun_cases parseLogic T fuel isF r s <;> intro h
  · cases h
  · -- keyword AND / OR
    rw [(logicLoop_keeps T _ _ _ _ _ _ _ _ _ _ _ h).2.2]
    split
    · exact Or.inl rfl
    · exact Or.inr rfl
  · -- another word: flagged invalid
    rw [(logicLoop_keeps T _ _ _ _ _ _ _ _ _ _ _ h).1] at hv; cases hv
  · -- no keyword
    exact Or.inl (logicLoop_keeps T _ _ _ _ _ _ _ _ _ _ _ h).2.2
  · cases h
  · cases h

#print axioms logicLoop_keeps
#print axioms parseLogic_type
end Mp
