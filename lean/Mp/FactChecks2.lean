import Mp.Cue
import Mp.FactChecks
import Mp.EscBridge
/-! Tie (a), continued. Completeness of the proved return-kind lists against the regenerated descriptor table: a function added
    to funcMap, or a descriptor whose Returns changes, must be covered by a theorem or be named here as decided by
    correspondence only. -/
namespace Mp.FactChecks
open Mp.Generated

/-- the functions whose return kind no theorem of `Mp/ReturnKinds.lean` covers: they call an external engine (regexp,
    encoding/json, fmt, the decoders) or the evaluator itself, and the kind they return is seen only by running the implementation
    in the harness. `AsJSON` and `ParseJSON` are arms of `pureFunc` all the same (`Mp/JsonDoc.lean`, `Mp/JsonOutProofs.lean`),
    `Select` is modelled by the evaluator (`Mp/EvalS.lean`); `pureFunc` has no arm for the other seven -/
def decidedByCorrespondenceOnly : List String :=
  ["DoesMatchRegex", "ReplaceRegex", "RemoveKeysByRegex", "AsJSON", "Sprintf", "ParseJSON", "ParseXML", "ParseYAML", "ParseTOML", "Select"]

theorem boolean_rows_covered : ∀ fd ∈ funcTable, fd.returns = ("Boolean", "Single") →
    fd.name ∈ Mp.returnsBoolean ∨ fd.name ∈ decidedByCorrespondenceOnly := by decide +kernel
theorem number_rows_covered : ∀ fd ∈ funcTable, fd.returns = ("Number", "Single") →
    fd.name ∈ Mp.returnsNumber ∨ fd.name ∈ decidedByCorrespondenceOnly := by decide +kernel
theorem string_rows_covered : ∀ fd ∈ funcTable, fd.returns = ("String", "Single") →
    fd.name ∈ Mp.returnsString ∨ fd.name ∈ decidedByCorrespondenceOnly := by decide +kernel
/-- every other row returns Any or Object (First/Last/Index/AsArray/Select/Parse*/RemoveKeysBy*): their reported type is
    the subject of `Mp.funcReturns` and of the evaluation half of the C14 check -/
theorem remaining_rows : ∀ fd ∈ funcTable,
    fd.returns = ("Boolean", "Single") ∨ fd.returns = ("Number", "Single") ∨ fd.returns = ("String", "Single") ∨
    fd.returns.1 = "Any" ∨ fd.returns.1 = "Object" := by decide +kernel

/-- the rule table the model's `unescape` folds over is the regenerated one -/
theorem model_unescape_rules : (Mp.unescapeRules.map (fun r => (r.1.toNat, r.2.toNat))).Perm rulesOfUnescape := by decide
theorem model_escape_rules : (Mp.byteRules.map (fun r => (r.1.toNat, r.2.toNat))).Perm rulesOfEscape := by decide

/-- the kind switch of opPathIdent.Validate against the model's `Mp.primKind`: every primitive cue kind of the model's schema
    type is a case of the switch, alone or with the kinds that share its type, and the case names the type the model reports -/
def goKindOf (k : String) : String :=
  match k with
  | "bool" => "BoolKind" | "string" => "StringKind" | "bytes" => "BytesKind" | "int" => "IntKind" | "float" => "FloatKind"
  | "number" => "NumberKind" | "top" => "TopKind" | _ => "?"

theorem kind_switch_pinned : cueKindTable = [(["BoolKind"], ["PT_Boolean"]), (["StringKind", "BytesKind"], ["PT_String"]),
    (["NumberKind", "IntKind", "FloatKind"], ["PT_Number"]), (["TopKind"], ["PT_Any"]), (["StructKind"], ["PT_Object"]),
    (["ListKind"], ["PT_Any"]), (["BottomKind"], []), (["default"], [])] := rfl

theorem primKind_matches_switch : ∀ k ∈ ["bool", "string", "bytes", "int", "float", "number", "top"],
    ∃ row ∈ cueKindTable, goKindOf k ∈ row.1 ∧ (Mp.primKind k).map (fun t => "PT_" ++ t) = row.2.head? := by decide +kernel

/-- C15, what `Mp/CueWalk.lean` assumes of the source: CueValidate starts every walk at the root with the blocked list; every
    Validate method hands its own cue path and blocked list on to every Validate it calls (no `nil`, no other list), and none
    assigns to these parameters (opPath.Validate moves its own cue path: that is the walk). `validateCalls` is
    `Generated.validateCalls`, the call sites in the source, not `Mp.validateCalls` of `Mp/CueFunc.lean` -/
theorem blocked_list_handed_down :
    validateCalls.all (fun c => c.2.2 == "blockedRootFields" && (if c.1 == "CueValidate" then c.2.1 == "CuePath{}" else c.2.1 == "cuePath")) = true
    ∧ validateReassignsItsParameters = false := by decide +kernel
/-- who calls Validate, in source order: CueValidate (a path or a group at the top), opPath (key, filter, call), opFilter (its
    group), opLogicalOperation (path and group operands), opFunction (path and group arguments); opPathIdent calls none -/
theorem validate_calls_pinned : validateCalls.map (·.1) =
    ["CueValidate", "CueValidate", "opPath.Validate", "opPath.Validate", "opPath.Validate", "opFilter.Validate",
     "opLogicalOperation.Validate", "opLogicalOperation.Validate", "opFunction.Validate", "opFunction.Validate"] := rfl
/-- a key is compared with the blocked list in one place, when the cue path is empty; a `$` resets the cue path -/
theorem blocked_test_at_root_only :
    blockedTests = ["len(cuePath) == 0 && strInStrSlice(t.IdentName, blockedRootFields)"] ∧ dollarResetsCuePath = true := ⟨rfl, rfl⟩

#print axioms blocked_list_handed_down
#print axioms validate_calls_pinned
#print axioms blocked_test_at_root_only
#print axioms boolean_rows_covered
#print axioms number_rows_covered
#print axioms string_rows_covered
#print axioms remaining_rows
#print axioms model_unescape_rules
#print axioms model_escape_rules
#print axioms kind_switch_pinned
#print axioms primKind_matches_switch
end Mp.FactChecks
