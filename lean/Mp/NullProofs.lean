import Mp.PureFuncEqs
/-! C19: the six null / empty predicates: the Not-forms are exact negations on every value, IsNullOrEmpty is the disjunction,
    and the table for the value kinds the property lists. -/
namespace Mp

-- the same function as `negOut` of StringFuncs.lean, which this module does not import
def negB (o : Out) : Out := match o with | .ok (.bool n b) => .ok (.bool n (!b)) | o => o

theorem negB_nullary (ps : List Prm) (b : Bool) : negB (Fn.nullary ps b) = Fn.nullary ps (!b) := by
  cases ps <;> rfl

theorem isNotNull_neg (ps : List Prm) (v : GoVal) : pureFunc "IsNotNull" ps v = (pureFunc "IsNull" ps v).map negB := by
  simp [negB_nullary]
theorem isNotEmpty_neg (ps : List Prm) (v : GoVal) : pureFunc "IsNotEmpty" ps v = (pureFunc "IsEmpty" ps v).map negB := by
  simp [negB_nullary]
theorem isNotNullOrEmpty_neg (ps : List Prm) (v : GoVal) :
    pureFunc "IsNotNullOrEmpty" ps v = (pureFunc "IsNullOrEmpty" ps v).map negB := by
  simp [negB_nullary]

/-- IsNull is true exactly for null, nil pointers, nil slices and nil maps -/
theorem isNull_spec (v : GoVal) : pureFunc "IsNull" [] v = some (okBool (isNilVal v)) := pureFunc_IsNull [] v

theorem isNullOrEmpty_disj (v : GoVal) :
    pureFunc "IsNull" [] v = some (okBool (isNilVal v)) ∧ pureFunc "IsEmpty" [] v = some (okBool (isEmptyVal v)) ∧
      pureFunc "IsNullOrEmpty" [] v = some (okBool (isNilVal v || isEmptyVal v)) :=
  ⟨isNull_spec v, pureFunc_IsEmpty [] v, pureFunc_IsNullOrEmpty [] v⟩

theorem isNull_table :
    isNilVal .nil = true ∧ (∀ x, isNilVal (.ptr true x) = true) ∧ (∀ n s, isNilVal (.str n s) = false) ∧
    (∀ d, isNilVal (.dec d) = false) ∧ (∀ k n i, isNilVal (.int k n i) = false) ∧ (∀ n b, isNilVal (.bool n b) = false) ∧
    (∀ ei xs, isNilVal (.slice ei false xs) = false) ∧ (∀ kk ks vs, isNilVal (.map kk false ks vs) = false) ∧
    (∀ ns vs, isNilVal (.struct ns vs) = false) := by
  simp [isNilVal]

/-- `cmpZero` is what IsEmpty answers (`isEmpty_spec`, next): true exactly for the zero values -/
theorem isEmpty_table :
    (∀ n, cmpZero (.str n []) = true) ∧ (∀ n c s, cmpZero (.str n (c :: s)) = false) ∧
    (∀ d : Dec, cmpZero (.dec d) = (d.coef == 0)) ∧ (∀ k n i, cmpZero (.int k n i) = (i == 0)) ∧
    (∀ n b, cmpZero (.bool n b) = !b) ∧
    (∀ ei n, cmpZero (.slice ei n []) = true) ∧ (∀ ei n x xs, cmpZero (.slice ei n (x :: xs)) = false) ∧
    (∀ kk n, cmpZero (.map kk n [] []) = true) ∧ (∀ kk n k ks vs, cmpZero (.map kk n (k :: ks) vs) = false) := by
  simp [cmpZero]

/-- `hv` is not used: IsEmpty of null is `true`, and `cmpZero .nil = true` -/
theorem isEmpty_spec (v : GoVal) (hv : v ≠ .nil) : pureFunc "IsEmpty" [] v = some (okBool (cmpZero v)) := by
  rw [pureFunc_IsEmpty]
  cases v <;> rfl

/-- the predicates take no argument: any argument is an error, not a panic -/
theorem null_predicates_reject_arguments (nm : String) (hn : nm ∈ ["IsNull", "IsNotNull", "IsEmpty", "IsNotEmpty", "IsNullOrEmpty", "IsNotNullOrEmpty"])
    (p : Prm) (ps : List Prm) (v : GoVal) : pureFunc nm (p :: ps) v = some .err := by
  -- one goal per listed name; `simp` opens each by its equation (PureFuncEqs) and ends with `Fn.nullary_cons`
  revert nm
  simp only [List.forall_mem_cons]
  simp

#print axioms isNotNull_neg
#print axioms isNotEmpty_neg
#print axioms isNotNullOrEmpty_neg
#print axioms isNullOrEmpty_disj
#print axioms isNull_table
#print axioms isEmpty_table
#print axioms null_predicates_reject_arguments
end Mp
