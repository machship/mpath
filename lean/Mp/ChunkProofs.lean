import Mp.LexProofs
/-! C08 — chunked delivery. The lexer model (`Mp/Lex.lean`) reads its look-ahead with `decodeRune` applied to everything that
is left of the input; the real `text/scanner` owns a buffer, asks the reader for more only while the unread part is shorter
than `utf8.UTFMax` and not a full rune (`utf8.FullRune`), and decodes from the buffer.

`fullRune`, `refill` and `runesChunked` model that loop. They are written from the Go source (`utf8.FullRune`, the loop at
the head of `Scanner.next`) by reading: the driver does not run them, so unlike the lexer and parser models they are not
compared with the Go code on generated inputs; chunked delivery itself is exercised on the real parser by the C08 runs. -/
namespace Mp

/-- `utf8.FullRune`: does `p` begin with a full encoding (valid or not) of a rune? -/
def fullRune (p : Bytes) : Bool :=
  match p with
  | [] => false
  | b0 :: t =>
    let p0 := b0.toNat
    if p0 < 0x80 then true
    else if p0 < 0xC2 || p0 > 0xF4 then true
    else
      let sz := if p0 < 0xE0 then 2 else if p0 < 0xF0 then 3 else 4
      let lo := if p0 == 0xE0 then 0xA0 else if p0 == 0xF0 then 0x90 else 0x80
      let hi := if p0 == 0xED then 0x9F else if p0 == 0xF4 then 0x8F else 0xBF
      match t with
      | [] => false
      | b1 :: t1 =>
        let c1 := b1.toNat
        if c1 < lo || hi < c1 then true
        else if sz == 2 then true
        else match t1 with
          | [] => false
          | b2 :: t2 =>
            let c2 := b2.toNat
            if c2 < 0x80 || 0xBF < c2 then true
            else if sz == 3 then true
            else match t2 with
              | [] => false
              | _ :: _ => true

theorem fullRune_of_four (p : Bytes) (h : 4 ≤ p.length) : fullRune p = true := by
  fun_cases fullRune p <;> simp at h ⊢

theorem decodeRune_append (p r : Bytes) (h : fullRune p = true) : decodeRune (p ++ r) = decodeRune p := by
  -- `fullRune` branches as `decodeRune` does, and says yes exactly where `decodeRune` returns without looking further
  revert h
  fun_cases fullRune p <;> rintro ⟨⟩ <;> simp +zetaDelta only [decodeRune, List.cons_append, *, ↓reduceIte]

/-- the loop at the head of `Scanner.next`; 4 is `utf8.UTFMax` -/
def refill (buf : Bytes) : List Bytes → Bytes × List Bytes
  | [] => (buf, [])
  | c :: cs => if buf.length < 4 && !fullRune buf then refill (buf ++ c) cs else (buf, c :: cs)

theorem refill_bytes {buf b : Bytes} {cs cs' : List Bytes} (h : refill buf cs = (b, cs')) :
    b ++ cs'.flatten = buf ++ cs.flatten := by
  fun_induction refill buf cs with
  | case1 =>
    cases h
    simp
  | case2 _ _ _ _ ih => simp [ih h]
  | case3 =>
    cases h
    simp

theorem refill_ready {buf b : Bytes} {cs cs' : List Bytes} (h : refill buf cs = (b, cs')) :
    cs' = [] ∨ fullRune b = true := by
  fun_induction refill buf cs with
  | case1 =>
    cases h
    exact .inl rfl
  | case2 _ _ _ _ ih => exact ih h
  | case3 _ _ _ hc =>
    cases h
    right
    by_cases hl : b.length < 4
    · simpa [hl] using hc
    · exact fullRune_of_four b (by omega)

/-- what text/scanner decodes when the input arrives in the chunks `cs`; `fuel` bounds the number of runes -/
def runesChunked : Nat → Bytes → List Bytes → List (Nat × Nat × Bool)
  | 0, _, _ => []
  | fuel + 1, buf, cs =>
    let (b, cs') := refill buf cs
    if b.isEmpty then [] else
    let d := decodeRune b
    d :: runesChunked fuel (b.drop d.2.1) cs'

/-- what the model decodes: always from everything that is left -/
def runesWhole : Nat → Bytes → List (Nat × Nat × Bool)
  | 0, _ => []
  | fuel + 1, s =>
    if s.isEmpty then [] else
    let d := decodeRune s
    d :: runesWhole fuel (s.drop d.2.1)

theorem chunk_independent_fuel (fuel : Nat) (buf : Bytes) (cs : List Bytes) :
    runesChunked fuel buf cs = runesWhole fuel (buf ++ cs.flatten) := by
  fun_induction runesChunked fuel buf cs with
  | case1 => rfl
  | case2 fuel buf cs b cs' h hb =>
    -- nothing buffered: the reader is exhausted (an empty buffer is not a full rune)
    obtain rfl : b = [] := List.isEmpty_iff.mp hb
    obtain rfl : cs' = [] := (refill_ready h).resolve_right (by simp [fullRune])
    rw [← refill_bytes h]
    rfl
  | case3 fuel buf cs b cs' h hb d ih =>
    -- the buffer holds a full rune, or all that is left: decoding it is decoding the whole
    have hdec : decodeRune (b ++ cs'.flatten) = d := by
      rcases refill_ready h with rfl | hf
      · simp [d]
      · exact decodeRune_append _ _ hf
    have hne : b ≠ [] := by simpa using hb
    have hw : d.2.1 ≤ b.length := (decodeRune_width_bounds b hne).2
    rw [ih, ← refill_bytes h, runesWhole, if_neg (by simp [hne])]
    simp only [hdec, List.drop_append_of_le_length hw]

/-- C08: however the reader delivers the bytes (any chunks, empty ones included), text/scanner decodes the runes, widths and
    encoding errors that the model decodes from the whole input -/
theorem chunk_independent (fuel : Nat) (cs : List Bytes) : runesChunked fuel [] cs = runesWhole fuel cs.flatten := by
  simpa using chunk_independent_fuel fuel [] cs

theorem same_bytes_same_runes (fuel : Nat) (cs ds : List Bytes) (h : cs.flatten = ds.flatten) :
    runesChunked fuel [] cs = runesChunked fuel [] ds := by
  rw [chunk_independent, chunk_independent, h]

/-- the model's look-ahead step is one step of `runesWhole` -/
theorem sc_next_decodes (s : Sc) (h : s.rest ≠ []) :
    (s.next.ch, s.next.chRaw, s.next.rest) =
      (((decodeRune s.rest).1 : Int), s.rest.take (decodeRune s.rest).2.1, s.rest.drop (decodeRune s.rest).2.1) := by
  unfold Sc.next
  cases hr : s.rest with
  | nil => exact absurd hr h
  | cons a t => simp

/-- "é$" split inside the rune; as one chunk and byte by byte with an empty read in between -/
example : runesChunked 5 [] [[0xC3], [0xA9, 0x24]] = [(0xE9, 2, false), (0x24, 1, false)] := by decide
example : runesChunked 5 [] [[0xC3, 0xA9, 0x24]] = runesChunked 5 [] [[0xC3], [], [0xA9], [0x24]] := by decide
/-- a truncated encoding at the end of the input is an encoding error however it arrives -/
example : runesChunked 5 [] [[0x24, 0xE2], [0x82]] = [(0x24, 1, false), (0xFFFD, 1, true), (0xFFFD, 1, true)] := by decide

#print axioms fullRune_of_four
#print axioms decodeRune_append
#print axioms chunk_independent
#print axioms same_bytes_same_runes
#print axioms sc_next_decodes
end Mp
